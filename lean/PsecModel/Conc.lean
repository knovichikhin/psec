/-!
# Abstract interleaving machine and schedule independence (C18)

Threads are lists of atomic steps over a shared store `G` and a private store `L`; a schedule is any list of thread ids. If no
step writes the shared store, every schedule leaves it unchanged and every thread computes what it computes when run alone. The
link to the package is the effect summary (`FnEffect`) that `harness/effects.py` regenerates from the Python source on every run:
`stepOf` reads a summary as a step, and `checkEffects` (whole package) and `scopeClean` (a property's modules) are the Boolean
checks over it.
-/
namespace Psec.Conc

structure Step (G L : Type) where
  run : G → L → G × L

def Step.ReadOnly {G L} (s : Step G L) : Prop := ∀ g l, (s.run g l).1 = g

structure Thread (G L : Type) where
  prog : List (Step G L)
  loc : L

structure Cfg (G L : Type) where
  glob : G
  thr : List (Thread G L)

def runAlone {G L} (g : G) : List (Step G L) → L → L
  | [], l => l
  | s :: r, l => runAlone g r (s.run g l).2

def stepAt {G L} (c : Cfg G L) (t : Nat) : Cfg G L :=
  match c.thr[t]? with
  | none => c
  | some th =>
    match th.prog with
    | [] => c
    | s :: r =>
      let (g', l') := s.run c.glob th.loc
      { glob := g', thr := c.thr.set t { prog := r, loc := l' } }

def exec {G L} (c : Cfg G L) (sched : List Nat) : Cfg G L := sched.foldl stepAt c

def AllReadOnly {G L} (c : Cfg G L) : Prop := ∀ th ∈ c.thr, ∀ s ∈ th.prog, s.ReadOnly

def finalOf {G L} (g : G) (th : Thread G L) : L := runAlone g th.prog th.loc

theorem stepAt_inv {G L} (c : Cfg G L) (t : Nat) (h : AllReadOnly c) :
    (stepAt c t).glob = c.glob ∧ AllReadOnly (stepAt c t) ∧
    (stepAt c t).thr.map (finalOf c.glob) = c.thr.map (finalOf c.glob) := by
  unfold stepAt
  cases ht : c.thr[t]? with
  | none => exact ⟨rfl, h, rfl⟩
  | some th =>
    obtain ⟨hlt, rfl⟩ := List.getElem?_eq_some_iff.mp ht
    simp only []
    cases hp : c.thr[t].prog with
    | nil => exact ⟨rfl, h, rfl⟩
    | cons s r =>
      have hmem : c.thr[t] ∈ c.thr := List.getElem_mem hlt
      have hg : (s.run c.glob c.thr[t].loc).1 = c.glob :=
        h _ hmem s (by rw [hp]; exact List.mem_cons_self) _ _
      refine ⟨hg, ?_, ?_⟩
      · intro th' hth' s' hs'
        rcases List.mem_or_eq_of_mem_set hth' with h1 | rfl
        · exact h th' h1 s' hs'
        · exact h _ hmem s' (by rw [hp]; exact List.mem_cons_of_mem _ hs')
      · -- the thread that stepped still ends where it would have ended: the list of final results is set to what it held
        have : finalOf c.glob { prog := r, loc := (s.run c.glob c.thr[t].loc).2 } =
            (c.thr.map (finalOf c.glob))[t]'(by simpa using hlt) := by
          simp [finalOf, hp, runAlone]
        rw [List.map_set, this, List.set_getElem_self]

theorem schedule_independent {G L} (c : Cfg G L) (sched : List Nat) (h : AllReadOnly c) :
    (exec c sched).glob = c.glob ∧
    (exec c sched).thr.map (finalOf c.glob) = c.thr.map (finalOf c.glob) := by
  induction sched generalizing c with
  | nil => exact ⟨rfl, rfl⟩
  | cons t r ih =>
    obtain ⟨hg, hro, hf⟩ := stepAt_inv c t h
    have := ih (stepAt c t) hro
    simp only [exec, List.foldl_cons] at this ⊢
    rw [hg] at this
    exact ⟨this.1, this.2.trans hf⟩

structure FnEffect where
  name : String
  sharedWrites : List String
  argWrites : List String
  selfWrites : List String
  unknown : List String
  deriving Repr, DecidableEq

/-- the methods that are meant to change their object (`KeyBlock.unwrap` re-loads its own header); every other function must not
write `self` -/
def allowedSelfWriters : List String := [
  "tr31.Blocks.__init__", "tr31.Blocks.__setitem__", "tr31.Blocks.__delitem__", "tr31.Blocks.load",
  "tr31.Header.__init__", "tr31.Header.load",
  "tr31.Header.version_id.setter", "tr31.Header.key_usage.setter", "tr31.Header.algorithm.setter",
  "tr31.Header.mode_of_use.setter", "tr31.Header.version_num.setter", "tr31.Header.exportability.setter",
  "tr31.KeyBlock.__init__", "tr31.KeyBlock.unwrap"]

/-- the only import-time writes: `mac.py` registers its three padding functions -/
def allowedModuleWrites : List String := ["mac:_pad_dispatch[1]", "mac:_pad_dispatch[2]", "mac:_pad_dispatch[3]"]

/-- the deterministic public operations (and `wrap`, which must not modify its arguments) that must be present in the summary;
public names only: private helpers may be renamed, merged or split freely (every function that *is* in the summary is judged) -/
def requiredFunctions : List String := [
  "aes.encrypt_aes_cbc", "aes.encrypt_aes_ecb", "aes.decrypt_aes_cbc", "aes.decrypt_aes_ecb",
  "des.encrypt_tdes_cbc", "des.encrypt_tdes_ecb", "des.decrypt_tdes_cbc", "des.decrypt_tdes_ecb",
  "des.generate_kcv", "des.apply_key_variant", "des.adjust_key_parity",
  "mac.generate_cbc_mac", "mac.generate_retail_mac", "mac.pad_iso_1", "mac.pad_iso_2", "mac.pad_iso_3",
  "cvv.generate_cvv", "pin.generate_visa_pvv", "pin.generate_ibm3624_pin", "pin.generate_ibm3624_offset",
  "pinblock.encode_pinblock_iso_0", "pinblock.encode_pinblock_iso_2", "pinblock.encode_pan_field_iso_4",
  "pinblock.decode_pinblock_iso_0", "pinblock.decode_pinblock_iso_2", "pinblock.decode_pinblock_iso_3",
  "pinblock.decode_pin_field_iso_4", "pinblock.decipher_pinblock_iso_4",
  "tools.xor", "tools.odd_parity", "tr31.unwrap", "tr31.wrap", "tr31.KeyBlock.wrap", "tr31.KeyBlock.unwrap",
  "tr31.Header.dump", "tr31.Header.__str__", "tr31.Blocks.dump"]

def fnClean (f : FnEffect) : Bool :=
  f.sharedWrites.isEmpty && f.argWrites.isEmpty && f.unknown.isEmpty &&
    (f.selfWrites.isEmpty || allowedSelfWriters.contains f.name)

def checkEffects (fs : List FnEffect) (moduleWrites : List String) : Bool :=
  fs.all fnClean && moduleWrites.all (allowedModuleWrites.contains ·) &&
    requiredFunctions.all (fun n => fs.any (fun f => f.name == n))

/-! `Lemmas/Scope/Cxx.lean` evaluates `scopeClean` on the modules the functions of property xx live in, closed under `import`. It
is a check of the regenerated summary and nothing more: no theorem takes it to `Step.ReadOnly` or `schedule_independent` (for the
whole package `Props.C18.every_step_readOnly` does, from `checkEffects`). It is meant to justify reading "for every input" in the
property's theorems as "whatever ran before or runs beside the call". -/

/-- fuel = rounds of following imports; `scopeClean` gives 12, the package has under ten modules -/
def modClosure (imports : List (String × List String)) : Nat → List String → List String
  | 0, ms => ms
  | fuel + 1, ms =>
    let next := ms ++ (ms.flatMap (fun m => (imports.lookup m).getD [])).filter (fun m => !ms.contains m)
    modClosure imports fuel next.eraseDups

/-- The last conjunct keeps a root module of which the summary knows no function from passing vacuously. -/
def scopeClean (byModule : List (String × List FnEffect)) (writesByModule : List (String × List String))
    (imports : List (String × List String)) (roots : List String) : Bool :=
  let ms := modClosure imports 12 roots
  (byModule.filter (fun g => ms.contains g.1)).all (fun g => g.2.all fnClean) &&
    (writesByModule.filter (fun g => ms.contains g.1)).all (fun g => g.2.all (allowedModuleWrites.contains ·)) &&
    roots.all (fun r => ((byModule.lookup r).getD []).length != 0)

/-- Semantics of a summary: the shared store is a list of named cells; executing the function may
change exactly the cells its summary lists (here: to an arbitrary new value chosen by `newVal`). -/
def stepOf (f : FnEffect) (newVal : String → Nat → Nat) (compute : List (String × Nat) → Nat → Nat) :
    Step (List (String × Nat)) Nat :=
  { run := fun g l =>
      (g.map (fun cell => if f.sharedWrites.contains cell.1 then (cell.1, newVal cell.1 cell.2) else cell),
       compute g l) }

theorem stepOf_readOnly (f : FnEffect) (nv : String → Nat → Nat) (cp : List (String × Nat) → Nat → Nat)
    (h : f.sharedWrites = []) : (stepOf f nv cp).ReadOnly := by
  intro g l
  simp only [stepOf, h]
  exact List.map_id'' (fun _ => rfl) g

theorem fnClean_shared (f : FnEffect) (h : fnClean f = true) : f.sharedWrites = [] := by
  unfold fnClean at h
  simp only [Bool.and_eq_true, List.isEmpty_iff] at h
  exact h.1.1.1

end Psec.Conc
