import PsecModel.Lemmas.Binding
import PsecModel.Lemmas.Method
import PsecModel.Lemmas.SpecOk
/-!
The binary sections. On a header section that is `HdrOK`, the method psec selects for a version derives the specification's keys,
packs what the specification's builder seals and unpacks by the specification's verification step (`derive_spec`, `pack_spec`,
`unpack_spec`): with them `dispatch_eq`, `dispatch_iff` and `seal_opens` are proved for any version at once. The versions are also told
apart where a length depends on the cipher (`specClear_length`, `deriveKeys_length`) and in `disp_B`, `disp_D`, `disp_AC`, which spell
`seal_opens` out per version.
-/
namespace Psec.Tr31
open Psec.Spec.TR31 Psec.Props.C19

/-! ### CBC over a list of blocks (specification) = CBC `update` on whole blocks (library model) -/

/-- `Spec/TR31.lean` has its own copy of the ISO 9797-1 block split -/
theorem splitBlocks_eq (bs : Nat) : ∀ (f : Nat) (d : Bytes), splitBlocks bs f d = Spec.blocksOf bs f d
  | 0, _ => rfl
  | f + 1, d => by simp only [splitBlocks, Spec.blocksOf, splitBlocks_eq bs f]

theorem specCbcDec_eq (D : Bytes → Bytes) (bs : Nat) (hbs : 0 < bs) :
    ∀ (n fuel : Nat) (iv enc : Bytes), enc.length = n * bs → n ≤ fuel →
    (cbcDec D iv (splitBlocks bs fuel enc)).flatten = (cbcDecUpdate D bs n iv enc).1
  | 0, fuel, iv, enc, hl, _ => by
    have : enc = [] := List.eq_nil_of_length_eq_zero (by simpa using hl)
    subst this
    rw [splitBlocks_eq, blocksOf_nil]; rfl
  | n + 1, 0, _, _, _, hf => by omega
  | n + 1, f + 1, iv, enc, hl, hf => by
    rw [splitBlocks_eq, blocksOf_succ bs f enc n hbs hl, ← splitBlocks_eq]
    simp only [cbcDec, cbcDecUpdate, List.flatten_cons]
    rw [specCbcDec_eq D bs hbs n f (enc.take bs) (enc.drop bs) (take_len_of_mul enc n bs hl).2 (by omega)]

theorem specCbcEnc_eq (E : Bytes → Bytes) (bs : Nat) (hbs : 0 < bs) :
    ∀ (n fuel : Nat) (iv data : Bytes), data.length = n * bs → n ≤ fuel →
    (cbcEnc E iv (splitBlocks bs fuel data)).flatten = (cbcEncUpdate E bs n iv data).1
  | 0, fuel, iv, data, hl, _ => by
    have : data = [] := List.eq_nil_of_length_eq_zero (by simpa using hl)
    subst this
    rw [splitBlocks_eq, blocksOf_nil]; rfl
  | n + 1, 0, _, _, _, hf => by omega
  | n + 1, f + 1, iv, data, hl, hf => by
    rw [splitBlocks_eq, blocksOf_succ bs f data n hbs hl, ← splitBlocks_eq]
    simp only [cbcEnc, cbcEncUpdate, List.flatten_cons]
    rw [specCbcEnc_eq E bs hbs n f _ (data.drop bs) (take_len_of_mul data n bs hl).2 (by omega)]

theorem specCbcDec_length (D : Bytes → Bytes) (bs : Nat) (hbs : 0 < bs) (hD : ∀ b, b.length = bs → (D b).length = bs) (iv enc : Bytes)
    (hm : enc.length % bs = 0) : ((cbcDec D iv (splitBlocks bs enc.length enc)).flatten).length = enc.length := by
  have hdiv := len_eq_div_mul _ _ hm
  rw [specCbcDec_eq D bs hbs _ _ iv enc hdiv (Nat.div_le_self _ _)]
  exact cbcDec_length D bs _ iv enc hD hdiv

theorem derive_spec (c : Ciphers) (hc : c.Lawful) (v : Nat) (kbpk : Bytes) (hk : kbpkOk v kbpk = true) :
    (methodOf c [v]).derive kbpk = .ok (deriveKeys c v kbpk) := by
  by_cases e66 : v = 66
  · subst e66; exact bDerive_eq_kdf c hc kbpk ((kbpkOk_B kbpk).mp hk)
  by_cases e68 : v = 68
  · subst e68; exact dDerive_eq_kdf c hc kbpk ((kbpkOk_D kbpk).mp hk)
  · rw [methodOf_C c (by simpa using e66) (by simpa using e68)]
    exact congrArg Except.ok (cDerive_eq_variant c kbpk v e66 e68)

/-- what a version needs of the header section for its method to be the specification's: whole cipher blocks for B and D (psec
builds CMAC by hand from CBC-MAC, which is CMAC on whole blocks only), eight characters for A and C (they are the IV) -/
structure HdrOK (v : Nat) (hdr : PyStr) : Prop where
  aligned : v = 66 ∨ v = 68 → hdr.length % bsOf v = 0
  iv : v ≠ 66 → v ≠ 68 → 8 ≤ hdr.length

/-- the two binary sections `Spec.TR31.build` computes: encrypted key data and authenticator -/
def specSeal (c : Ciphers) (v : Nat) (kbpk : Bytes) (hdr : PyStr) (clear : Bytes) : Bytes × Bytes :=
  if v = 66 ∨ v = 68 then
    ((cbcEnc (if v = 68 then c.aesE (deriveKeys c v kbpk).1 else c.tdesE (deriveKeys c v kbpk).1)
        (tag c v (deriveKeys c v kbpk).2 hdr clear []) (splitBlocks (bsOf v) clear.length clear)).flatten,
      tag c v (deriveKeys c v kbpk).2 hdr clear [])
  else
    ((cbcEnc (c.tdesE (deriveKeys c v kbpk).1) ((asciiBytes hdr).take 8) (splitBlocks (bsOf v) clear.length clear)).flatten,
      tag c v (deriveKeys c v kbpk).2 hdr []
        (cbcEnc (c.tdesE (deriveKeys c v kbpk).1) ((asciiBytes hdr).take 8) (splitBlocks (bsOf v) clear.length clear)).flatten)

theorem macMsg_aligned (bs : Nat) (hdr : PyStr) (d : Bytes) (hhm : hdr.length % bs = 0) (hd : DataOk bs d) :
    bs ≤ (asciiBytes hdr ++ d).length ∧ (asciiBytes hdr ++ d).length % bs = 0 := by
  rw [List.length_append, asciiBytes, List.length_map, Nat.add_mod, hhm, hd.2]
  exact ⟨Nat.le_trans (Nat.le_of_dvd hd.1 (Nat.dvd_of_mod_eq_zero hd.2)) (Nat.le_add_left _ _), rfl⟩

theorem pack_spec (c : Ciphers) (hc : c.Lawful) (v : Nat) (kbpk : Bytes) (hk : kbpkOk v kbpk = true) (hdr : PyStr)
    (hpr : asciiPrintable hdr = true) (hh : HdrOK v hdr) (clear : Bytes) (hcl : DataOk (bsOf v) clear) :
    (methodOf c [v]).pack (deriveKeys c v kbpk) hdr clear = .ok (specSeal c v kbpk hdr clear) := by
  obtain ⟨hea, habl⟩ := encodeAscii_printable hdr hpr
  have hdiv := len_eq_div_mul _ _ hcl.2
  have hok := deriveKeys_keyOk c hc v kbpk hk
  by_cases e66 : v = 66
  · subst e66
    show packMtE (bGenerateMac c) (Des.encryptTdesCbc c) _ _ _ = _
    rw [show bsOf 66 = 8 from rfl] at hcl hdiv
    obtain ⟨hkek, hkak⟩ := hok.2 (by decide)
    obtain ⟨h8, hm8⟩ := macMsg_aligned 8 hdr clear (hh.aligned (.inl rfl)) hcl
    obtain ⟨m, hm1, hm2⟩ := bGenerateMac_ok c hc _ hdr clear hkak hpr
    have htag := Props.C03.bMac_eq_tag c hc _ hdr (asciiBytes hdr) clear hkak hea h8 hm8 []
    cases hm1.symm.trans htag
    simp only [packMtE, htag, ok_bind, tdes_cbc_enc_ok c _ _ clear hkek hm2 hcl,
      ← specCbcEnc_eq _ 8 (by decide) _ clear.length _ clear hdiv (Nat.div_le_self _ _)]
    rfl
  by_cases e68 : v = 68
  · subst e68
    show packMtE (dGenerateMac c) (Aes.encryptAesCbc c) _ _ _ = _
    rw [show bsOf 68 = 16 from rfl] at hcl hdiv
    obtain ⟨hkek, hkak⟩ := hok.1 rfl
    obtain ⟨h16, hm16⟩ := macMsg_aligned 16 hdr clear (hh.aligned (.inr rfl)) hcl
    obtain ⟨m, hm1, hm2⟩ := dGenerateMac_ok c hc _ hdr clear hkak hpr
    have htag := Props.C03.dMac_eq_tag c hc _ hdr (asciiBytes hdr) clear hkak hea h16 hm16 []
    cases hm1.symm.trans htag
    simp only [packMtE, htag, ok_bind, aes_cbc_enc_ok c _ _ clear hkek hm2 hcl,
      ← specCbcEnc_eq _ 16 (by decide) _ clear.length _ clear hdiv (Nat.div_le_self _ _)]
    rfl
  · obtain ⟨hkek, hkak⟩ := hok.2 e68
    have hbs := bsOf_of_ne e68
    have hh8 := hh.iv e66 e68
    rw [hbs] at hcl hdiv
    have hiv : ((asciiBytes hdr).take 8).length = 8 := by rw [List.length_take, habl]; omega
    rw [methodOf_C c (by simpa using e66) (by simpa using e68)]
    simp only [methodC, hea, tdes_cbc_enc_ok c _ _ clear hkek hiv hcl, ok_bind,
      ← specCbcEnc_eq _ 8 (by decide) _ clear.length _ clear hdiv (Nat.div_le_self _ _),
      Props.C03.cMac_eq_tag c hc _ hdr (asciiBytes hdr) _ v e66 e68 hkak hea []]
    rw [specSeal, if_neg (fun h => h.elim e66 e68), hbs]

theorem unpack_spec (c : Ciphers) (hc : c.Lawful) (v : Nat) (kbpk : Bytes) (hk : kbpkOk v kbpk = true) (hdr : PyStr)
    (hpr : asciiPrintable hdr = true) (hh : HdrOK v hdr) (enc t : Bytes) (hd : DataOk (bsOf v) enc)
    (htl : t.length = macLenOf v) :
    (methodOf c [v]).unpack (deriveKeys c v kbpk) hdr enc t =
      if tag c v (deriveKeys c v kbpk).2 hdr (specClear c v kbpk hdr enc t) enc ≠ t then .error .keyblock
      else .ok (specClear c v kbpk hdr enc t) := by
  obtain ⟨hea, habl⟩ := encodeAscii_printable hdr hpr
  have hdiv := len_eq_div_mul _ _ hd.2
  have hok := deriveKeys_keyOk c hc v kbpk hk
  by_cases e66 : v = 66
  · subst e66
    show unpackMtE (bGenerateMac c) (Des.decryptTdesCbc c) _ _ _ _ = _
    rw [show bsOf 66 = 8 from rfl] at hd hdiv
    obtain ⟨hkek, hkak⟩ := hok.2 (by decide)
    have hclen := specCbcDec_length _ 8 (by decide) (hc.tdes_de _ hkek).enc_len t enc hd.2
    rw [show specClear c 66 kbpk hdr enc t = (cbcDec (c.tdesD (deriveKeys c 66 kbpk).1) t (splitBlocks 8 enc.length enc)).flatten from rfl]
    simp only [unpackMtE, tdes_cbc_dec_ok c _ t enc hkek htl hd, ok_bind,
      ← specCbcDec_eq _ 8 (by decide) _ enc.length t enc hdiv (Nat.div_le_self _ _)]
    generalize (cbcDec (c.tdesD (deriveKeys c 66 kbpk).1) t (splitBlocks 8 enc.length enc)).flatten = clear at hclen
    obtain ⟨h8, hm8⟩ := macMsg_aligned 8 hdr clear (hh.aligned (.inl rfl)) ⟨hclen ▸ hd.1, hclen ▸ hd.2⟩
    rw [Props.C03.bMac_eq_tag c hc _ hdr (asciiBytes hdr) clear hkak hea h8 hm8 enc, ok_bind]
  by_cases e68 : v = 68
  · subst e68
    show unpackMtE (dGenerateMac c) (Aes.decryptAesCbc c) _ _ _ _ = _
    rw [show bsOf 68 = 16 from rfl] at hd hdiv
    obtain ⟨hkek, hkak⟩ := hok.1 rfl
    have hclen := specCbcDec_length _ 16 (by decide) (hc.aes_de _ hkek).enc_len t enc hd.2
    rw [show specClear c 68 kbpk hdr enc t = (cbcDec (c.aesD (deriveKeys c 68 kbpk).1) t (splitBlocks 16 enc.length enc)).flatten from rfl]
    simp only [unpackMtE, aes_cbc_dec_ok c _ t enc hkek htl hd, ok_bind,
      ← specCbcDec_eq _ 16 (by decide) _ enc.length t enc hdiv (Nat.div_le_self _ _)]
    generalize (cbcDec (c.aesD (deriveKeys c 68 kbpk).1) t (splitBlocks 16 enc.length enc)).flatten = clear at hclen
    obtain ⟨h16, hm16⟩ := macMsg_aligned 16 hdr clear (hh.aligned (.inr rfl)) ⟨hclen ▸ hd.1, hclen ▸ hd.2⟩
    rw [Props.C03.dMac_eq_tag c hc _ hdr (asciiBytes hdr) clear hkak hea h16 hm16 enc, ok_bind]
  · obtain ⟨hkek, hkak⟩ := hok.2 e68
    have hbs := bsOf_of_ne e68
    have hh8 := hh.iv e66 e68
    rw [hbs] at hd hdiv
    have hiv : ((asciiBytes hdr).take 8).length = 8 := by rw [List.length_take, habl]; omega
    rw [methodOf_C c (by simpa using e66) (by simpa using e68), specClear, if_neg e68, if_neg e66]
    simp only [methodC, Props.C03.cMac_eq_tag c hc _ hdr (asciiBytes hdr) enc v e66 e68 hkak hea
      (cbcDec (c.tdesD (deriveKeys c v kbpk).1) ((asciiBytes hdr).take 8) (splitBlocks 8 enc.length enc)).flatten, ok_bind, hea,
      tdes_cbc_dec_ok c _ _ enc hkek hiv hd, ← specCbcDec_eq _ 8 (by decide) _ enc.length _ enc hdiv (Nat.div_le_self _ _), hbs]

theorem dispatch_ok_len (c : Ciphers) (v : Nat) (kbpk : Bytes) (hdr : PyStr) (enc t key : Bytes)
    (h : unwrapDispatch c [v] kbpk hdr enc t = .ok key) :
    kbpkOk v kbpk = true ∧ bsOf v ≤ enc.length ∧ enc.length % bsOf v = 0 := by
  obtain ⟨hk, hl, hm, -⟩ := Method.unwrap_ok ((unwrapDispatch_eq ..).symm.trans h)
  obtain ⟨hbs, -, hkk⟩ := methodOf_spec c v kbpk
  exact ⟨hkk.mp hk, hbs ▸ hl, hbs ▸ hm⟩

theorem specClear_length (c : Ciphers) (hc : c.Lawful) (v : Nat) (kbpk : Bytes) (hk : kbpkOk v kbpk = true) (hdr : PyStr) (enc t : Bytes) (hem : enc.length % bsOf v = 0) :
    (specClear c v kbpk hdr enc t).length = enc.length := by
  have hok := deriveKeys_keyOk c hc v kbpk hk
  unfold specClear
  by_cases e68 : v = 68
  · subst e68
    rw [if_pos rfl]
    exact specCbcDec_length _ 16 (by decide) (hc.aes_de _ (hok.1 rfl).1).enc_len t enc hem
  have hbs := bsOf_of_ne e68
  rw [if_neg e68, hbs]
  rw [hbs] at hem
  split <;> exact specCbcDec_length _ 8 (by decide) (hc.tdes_de _ (hok.2 e68).1).enc_len _ enc hem

theorem dispatch_eq (c : Ciphers) (hc : c.Lawful) (v : Nat) (kbpk : Bytes)
    (hk : kbpkOk v kbpk = true) (hdr : PyStr) (hpr : asciiPrintable hdr = true) (hh : HdrOK v hdr)
    (enc t : Bytes) (hel : bsOf v ≤ enc.length) (hem : enc.length % bsOf v = 0) (htl : t.length = macLenOf v) :
    unwrapDispatch c [v] kbpk hdr enc t =
      (if tag c v (deriveKeys c v kbpk).snd hdr (specClear c v kbpk hdr enc t) enc ≠ t
       then .error .keyblock else extractKey (specClear c v kbpk hdr enc t)) := by
  obtain ⟨hbs, -, hkk⟩ := methodOf_spec c v kbpk
  have hbs8 := bsOf_ge v
  rw [unwrapDispatch_eq, Method.unwrap, if_neg (not_not_intro (hkk.mpr hk)), hbs, if_neg (by omega), derive_spec c hc v kbpk hk,
    ok_bind, unpack_spec c hc v kbpk hk hdr hpr hh enc t ⟨by omega, hem⟩ htl]
  split <;> rfl

theorem dispatch_iff (c : Ciphers) (hc : c.Lawful) (v : Nat) (hv : v = 65 ∨ v = 66 ∨ v = 67 ∨ v = 68) (kbpk : Bytes)
    (hk : kbpkOk v kbpk = true) (hdr : PyStr) (hpr : asciiPrintable hdr = true) (hhm : hdr.length % bsOf v = 0)
    (hh16 : 16 ≤ hdr.length) (enc t key : Bytes) (hel : bsOf v ≤ enc.length) (hem : enc.length % bsOf v = 0)
    (htl : t.length = macLenOf v) :
    unwrapDispatch c [v] kbpk hdr enc t = .ok key ↔
      tag c v (deriveKeys c v kbpk).snd hdr (specClear c v kbpk hdr enc t) enc = t ∧
      fromBytesBE ((specClear c v kbpk hdr enc t).take 2) % 8 = 0 ∧
      fromBytesBE ((specClear c v kbpk hdr enc t).take 2) / 8 + 2 ≤ (specClear c v kbpk hdr enc t).length ∧
      key = ((specClear c v kbpk hdr enc t).drop 2).take (fromBytesBE ((specClear c v kbpk hdr enc t).take 2) / 8) := by
  have hbs8 := bsOf_ge v
  have hex := extractKey_iff (specClear c v kbpk hdr enc t) key
    (by rw [specClear_length c hc v kbpk hk hdr enc t hem]; omega)
  rw [dispatch_eq c hc v kbpk hk hdr hpr ⟨fun _ => hhm, fun _ _ => by omega⟩ enc t hel hem htl]
  by_cases hm : tag c v (deriveKeys c v kbpk).snd hdr (specClear c v kbpk hdr enc t) enc ≠ t
  · rw [if_pos hm]
    exact ⟨fun hh => (by cases hh), fun hh => absurd hh.1 hm⟩
  · rw [if_neg hm]
    exact ⟨fun hh => ⟨Decidable.not_not.mp hm, hex.mp hh⟩, fun hh => hex.mpr hh.2⟩

/-- `clear` is a variable with its defining equation `hclear`, neither a `let` nor the expression written out: the statement stays
`let`-free and small, and a caller that has a name for the expression rewrites with its own equation (any other passes `rfl`).
`build_eq` and `build_sealed` name their intermediate values the same way. -/
theorem seal_opens (c : Ciphers) (hc : c.Lawful) (v : Nat) (kbpk : Bytes) (hk : kbpkOk v kbpk = true) (hdr : PyStr)
    (hpr : asciiPrintable hdr = true) (hh : HdrOK v hdr) (key pad : Bytes)
    (hkp : (2 + key.length + pad.length) % bsOf v = 0) (clear : Bytes)
    (hclear : clear = [hi (8 * key.length), lo (8 * key.length)] ++ key ++ pad) :
    (specSeal c v kbpk hdr clear).1.length = clear.length ∧ (specSeal c v kbpk hdr clear).2.length = macLenOf v ∧
    (8 * key.length < 65536 → unwrapDispatch c [v] kbpk hdr (specSeal c v kbpk hdr clear).1 (specSeal c v kbpk hdr clear).2 = .ok key) := by
  obtain ⟨hbs, hml, hkk⟩ := methodOf_spec c v kbpk
  have hcl : clear.length = 2 + key.length + pad.length := by rw [hclear]; simp; omega
  have hdo : DataOk (bsOf v) clear := ⟨by omega, hcl ▸ hkp⟩
  have hd := derive_spec c hc v kbpk hk
  obtain ⟨hl, hm, hu, -⟩ := (methodOf_sound c hc [v]).unpack_pack kbpk _ hdr clear (specSeal c v kbpk hdr clear).1
    (specSeal c v kbpk hdr clear).2 (hkk.mpr hk) hd
    (pack_spec c hc v kbpk hk hdr hpr hh clear hdo)
  refine ⟨hl, hml ▸ hm, fun hk16 => ?_⟩
  have hge := Nat.le_of_dvd hdo.1 (Nat.dvd_of_mod_eq_zero hdo.2)
  have h2 := hdo.2
  rw [unwrapDispatch_eq, Method.unwrap, if_neg (not_not_intro (hkk.mpr hk)), hbs, if_neg (by rw [hl]; omega), hd, ok_bind, hu,
    ok_bind, hclear]
  exact extractKey_spec key pad hk16

theorem disp_B (c : Ciphers) (hc : c.Lawful) (kbpk : Bytes) (hk : kbpk.length = 16 ∨ kbpk.length = 24) (hdr : PyStr)
    (hpr : asciiPrintable hdr = true) (hhm : hdr.length % 8 = 0) (key pad : Bytes)
    (hkp : (2 + key.length + pad.length) % 8 = 0) :
    let clear := [hi (8 * key.length), lo (8 * key.length)] ++ key ++ pad
    let t := tag c 66 (deriveKeys c 66 kbpk).snd hdr clear []
    let enc := (cbcEnc (c.tdesE (deriveKeys c 66 kbpk).fst) t (splitBlocks 8 clear.length clear)).flatten
    (8 * key.length < 65536 → bUnwrap c kbpk hdr enc t = .ok key) ∧ enc.length = clear.length ∧ t.length = 8 := by
  intro clear t enc
  obtain ⟨h1, h2, h3⟩ := seal_opens c hc 66 kbpk ((kbpkOk_B kbpk).mpr hk) hdr hpr
    ⟨fun _ => hhm, fun h => absurd rfl h⟩ key pad hkp clear rfl
  rw [specSeal, if_pos (.inl rfl), if_neg (by decide)] at h1 h2 h3
  rw [unwrapDispatch, if_pos (by decide)] at h3
  -- the pair's components, reduced before the unifier meets them under `enc` and `t`
  dsimp only at h1 h2 h3
  exact ⟨h3, h1, h2⟩

theorem disp_D (c : Ciphers) (hc : c.Lawful) (kbpk : Bytes) (hk : kbpk.length = 16 ∨ kbpk.length = 24 ∨ kbpk.length = 32) (hdr : PyStr)
    (hpr : asciiPrintable hdr = true) (hhm : hdr.length % 16 = 0) (key pad : Bytes)
    (hkp : (2 + key.length + pad.length) % 16 = 0) :
    let clear := [hi (8 * key.length), lo (8 * key.length)] ++ key ++ pad
    let t := tag c 68 (deriveKeys c 68 kbpk).snd hdr clear []
    let enc := (cbcEnc (c.aesE (deriveKeys c 68 kbpk).fst) t (splitBlocks 16 clear.length clear)).flatten
    (8 * key.length < 65536 → dUnwrap c kbpk hdr enc t = .ok key) ∧ enc.length = clear.length ∧ t.length = 16 := by
  intro clear t enc
  obtain ⟨h1, h2, h3⟩ := seal_opens c hc 68 kbpk ((kbpkOk_D kbpk).mpr hk) hdr hpr
    ⟨fun _ => hhm, fun _ h => absurd rfl h⟩ key pad hkp clear rfl
  rw [specSeal, if_pos (.inr rfl), if_pos rfl] at h1 h2 h3
  rw [unwrapDispatch, if_neg (by decide), if_pos (by decide)] at h3
  dsimp only at h1 h2 h3
  exact ⟨h3, h1, h2⟩

theorem disp_AC (c : Ciphers) (hc : c.Lawful) (v : Nat) (h1 : v ≠ 66) (h2 : v ≠ 68) (kbpk : Bytes)
    (hk : kbpk.length = 8 ∨ kbpk.length = 16 ∨ kbpk.length = 24) (hdr : PyStr)
    (hpr : asciiPrintable hdr = true) (hh8 : 8 ≤ hdr.length) (key pad : Bytes)
    (hkp : (2 + key.length + pad.length) % 8 = 0) :
    let clear := [hi (8 * key.length), lo (8 * key.length)] ++ key ++ pad
    let enc := (cbcEnc (c.tdesE (deriveKeys c v kbpk).fst) ((asciiBytes hdr).take 8) (splitBlocks 8 clear.length clear)).flatten
    let t := tag c v (deriveKeys c v kbpk).snd hdr [] enc
    (8 * key.length < 65536 → cUnwrap c kbpk hdr enc t = .ok key) ∧ enc.length = clear.length ∧ t.length = 4 := by
  intro clear enc t
  have hbs := bsOf_of_ne h2
  have hml : macLenOf v = 4 := by unfold macLenOf; rw [if_neg h1, if_neg h2]
  obtain ⟨g1, g2, g3⟩ := seal_opens c hc v kbpk ((kbpkOk_AC h1 h2 kbpk).mpr hk) hdr hpr
    ⟨fun h => (h.elim h1 h2).elim, fun _ _ => hh8⟩ key pad (hbs ▸ hkp) clear rfl
  have b66 : (([v] : PyStr) == [66]) = false := by simpa using h1
  have b68 : (([v] : PyStr) == [68]) = false := by simpa using h2
  rw [specSeal, if_neg (fun h => h.elim h1 h2), hbs] at g1 g2 g3
  simp only [unwrapDispatch, b66, b68, Bool.false_eq_true, if_false] at g3
  exact ⟨g3, g1, hml ▸ g2⟩

end Psec.Tr31
