import PsecModel.Lemmas.AesState
import PsecModel.Lemmas.Cbc
/-! The reference AES is a permutation, for every key of 16, 24 or 32 bytes and every 16-byte block: cipher and inverse cipher cancel
round by round for any list of at least two 16-byte round keys (induction over the list, from `Lemmas/AesState.lean`), and the key
expansion yields such a list (`roundKeys_shape`). -/
namespace Psec.AES

def RK (rks : List (List UInt8)) : Prop := ∀ k ∈ rks, k.length = 16

theorem RK_cons {k : List UInt8} {ks : List (List UInt8)} : RK (k :: ks) ↔ k.length = 16 ∧ RK ks := by simp [RK]

theorem ark_len {s k : List UInt8} (hs : s.length = 16) (hk : k.length = 16) : (addRoundKey s k).length = 16 := by
  rw [addRoundKey_len, hs, hk]; rfl
theorem ark_cancel {s k : List UInt8} (hs : s.length = 16) (hk : k.length = 16) : addRoundKey (addRoundKey s k) k = s :=
  addRoundKey_cancel s k (by omega)

theorem encRounds_len : ∀ (ks : List (List UInt8)) (s : State), RK ks → s.length = 16 → (encRounds ks s).length = 16
  | [], s, _, hs => by simpa [encRounds] using hs
  | [k], s, hk, hs => ark_len (by simpa using hs) (RK_cons.mp hk).1
  | k :: k' :: r, s, hk, hs =>
    encRounds_len (k' :: r) _ (RK_cons.mp hk).2 (ark_len (by simpa using hs) (RK_cons.mp hk).1)

theorem decRounds_len : ∀ (ks : List (List UInt8)) (s : State), RK ks → s.length = 16 → (decRounds ks s).length = 16
  | [], s, _, hs => by simpa [decRounds] using hs
  | [k], s, hk, hs => ark_len hs (RK_cons.mp hk).1
  | k :: k' :: r, s, hk, hs =>
    decRounds_len (k' :: r) _ (RK_cons.mp hk).2 (by simpa using ark_len hs (RK_cons.mp hk).1)

/-- the inverse cipher undoes the rounds `ks` of the cipher and continues with the remaining keys `pre` -/
theorem dec_enc_rounds : ∀ (ks pre : List (List UInt8)) (s : State), ks ≠ [] → pre ≠ [] → RK ks → s.length = 16 →
    decBlockRK (ks.reverse ++ pre) (encRounds ks s) = decRounds pre s
  | [], _, _, h, _, _, _ => absurd rfl h
  | [k], pre, s, _, _, hk, hs => by
    simp only [encRounds, List.reverse_cons, List.reverse_nil, List.nil_append, List.cons_append, decBlockRK]
    rw [ark_cancel (by simpa using hs) (RK_cons.mp hk).1, invShift_shift, invSub_sub]
  | k :: k' :: r, pre, s, _, hp, hk, hs => by
    have h3 : (mixColumns (shiftRows (subBytes s))).length = 16 := by simpa using hs
    have e : (k :: k' :: r).reverse ++ pre = (k' :: r).reverse ++ (k :: pre) := by
      rw [List.reverse_cons (a := k), List.append_assoc]; rfl
    simp only [e, encRounds]
    rw [dec_enc_rounds (k' :: r) (k :: pre) _ (by simp) (by simp) (RK_cons.mp hk).2 (ark_len h3 (RK_cons.mp hk).1)]
    cases pre with
    | nil => exact absurd rfl hp
    | cons p ps =>
      simp only [decRounds]
      rw [ark_cancel h3 (RK_cons.mp hk).1, invMix_mix, invShift_shift, invSub_sub]

/-- the cipher redoes the rounds the inverse cipher undid (keys `m` in inverse-cipher order), then continues with `post` -/
theorem enc_dec_rounds (k0 : List UInt8) (hk0 : k0.length = 16) :
    ∀ (m post : List (List UInt8)) (t : State), post ≠ [] → RK m → t.length = 16 →
    encRounds (m.reverse ++ post) (addRoundKey (decRounds (m ++ [k0]) t) k0) = encRounds post t
  | [], post, t, _, _, ht => by
    simp only [List.reverse_nil, List.nil_append, decRounds]
    rw [ark_cancel ht hk0]
  | k :: m', post, t, hp, hk, ht => by
    have hk16 := (RK_cons.mp hk).1
    have hd : decRounds ((k :: m') ++ [k0]) t =
        decRounds (m' ++ [k0]) (invSubBytes (invShiftRows (invMixColumns (addRoundKey t k)))) := by
      cases m' <;> rfl
    have e : (k :: m').reverse ++ post = m'.reverse ++ (k :: post) := by
      rw [List.reverse_cons, List.append_assoc]; rfl
    rw [hd, e, enc_dec_rounds k0 hk0 m' (k :: post) _ (by simp) (RK_cons.mp hk).2 (by simpa using ark_len ht hk16)]
    cases post with
    | nil => exact absurd rfl hp
    | cons p ps =>
      simp only [encRounds]
      rw [sub_invSub, shift_invShift, mix_invMix, ark_cancel ht hk16]

theorem dec_enc_block (rks : List (List UInt8)) (hr : RK rks) (h2 : 2 ≤ rks.length) (b : Bytes) (hb : b.length = 16) :
    decBlockRK rks.reverse (encBlockRK rks b) = b ∧ (encBlockRK rks b).length = 16 := by
  match rks, h2 with
  | k0 :: k1 :: ks, _ =>
    have hk0 := (RK_cons.mp hr).1
    constructor
    · simp only [encBlockRK]
      rw [List.reverse_cons (a := k0),
        dec_enc_rounds (k1 :: ks) [k0] _ (by simp) (by simp) (RK_cons.mp hr).2 (ark_len hb hk0)]
      simp only [decRounds]
      exact ark_cancel hb hk0
    · simp only [encBlockRK]
      exact encRounds_len _ _ (RK_cons.mp hr).2 (ark_len hb hk0)

theorem enc_dec_block (rks : List (List UInt8)) (hr : RK rks) (h2 : 2 ≤ rks.length) (b : Bytes) (hb : b.length = 16) :
    encBlockRK rks (decBlockRK rks.reverse b) = b ∧ (decBlockRK rks.reverse b).length = 16 := by
  match rks, h2 with
  | k0 :: k1 :: ks, _ =>
    have hk0 := (RK_cons.mp hr).1
    obtain ⟨mid, kl, hsplit⟩ : ∃ mid kl, k1 :: ks = mid ++ [kl] :=
      ⟨(k1 :: ks).dropLast, (k1 :: ks).getLast (by simp), (List.dropLast_concat_getLast (by simp)).symm⟩
    have hrk : RK (mid ++ [kl]) := by rw [← hsplit]; exact (RK_cons.mp hr).2
    have hmid : RK mid := fun x hx => hrk x (by simp [hx])
    have hkl : kl.length = 16 := hrk kl (by simp)
    have hrev : (k0 :: k1 :: ks).reverse = kl :: (mid.reverse ++ [k0]) := by
      rw [List.reverse_cons, hsplit, List.reverse_append]; rfl
    have hmr : RK mid.reverse := fun x hx => hmid x (by simpa using hx)
    have ht : (invSubBytes (invShiftRows (addRoundKey b kl))).length = 16 := by simpa using ark_len hb hkl
    rw [hrev, hsplit]
    simp only [decBlockRK, encBlockRK]
    constructor
    · have := enc_dec_rounds k0 hk0 mid.reverse [kl] _ (by simp) hmr ht
      rw [List.reverse_reverse] at this
      rw [this]
      simp only [encRounds]
      rw [sub_invSub, shift_invShift, ark_cancel hb hkl]
    · refine decRounds_len _ _ ?_ ht
      intro x hx
      rcases List.mem_append.mp hx with h | h
      · exact hmr x h
      · simp at h; rw [h]; exact hk0

def W4 (ws : List Word) : Prop := ∀ w ∈ ws, w.length = 4

theorem W4_cons {w : Word} {ws : List Word} : W4 (w :: ws) ↔ w.length = 4 ∧ W4 ws := by simp [W4]

/-- what the fall-through case of a function that consumes four elements at a time knows about its argument -/
theorem lt4_of_not_cons4 {α : Type} : ∀ (l : List α), (∀ a b c d r, l = a :: b :: c :: d :: r → False) → l.length < 4
  | [], _ | [_], _ | [_, _], _ | [_, _, _], _ => by simp
  | a :: b :: c :: d :: r, h => (h a b c d r rfl).elim

theorem keyWords_shape (key : Bytes) : (keyWords key).length = key.length / 4 ∧ W4 (keyWords key) := by
  fun_induction keyWords key with
  | case1 a b c d r ih => exact ⟨by simp [ih.1]; omega, W4_cons.mpr ⟨rfl, ih.2⟩⟩
  | case2 key h => exact ⟨by have := lt4_of_not_cons4 key h; simp; omega, by simp [W4]⟩

theorem xorW_len : ∀ (a b : Word), (xorW a b).length = min a.length b.length
  | [], _ => by simp [xorW]
  | _ :: _, [] => by simp [xorW]
  | a :: s, b :: k => by simp [xorW, xorW_len s k]

theorem expandAux_shape (nk : Nat) (hnk : 0 < nk) : ∀ (fuel i : Nat) (ws : List Word), W4 ws → nk ≤ ws.length →
    W4 (expandAux nk fuel i ws) ∧ (expandAux nk fuel i ws).length = ws.length + fuel
  | 0, _, ws, hw, _ => ⟨by simpa [expandAux] using hw, by simp [expandAux]⟩
  | fuel + 1, i, ws, hw, hl => by
    simp only [expandAux]
    -- the previous word and the word `nk` back have four bytes, hence so has the new word, whichever branch makes it
    have hprev : (ws.headD []).length = 4 := by
      cases ws with
      | nil => simp at hl; omega
      | cons x xs => exact (W4_cons.mp hw).1
    have hback : (ws.getD (nk - 1) []).length = 4 := by
      have hlt : nk - 1 < ws.length := by omega
      rw [List.getD_eq_getElem?_getD, List.getElem?_eq_getElem hlt, Option.getD_some]
      exact hw _ (List.getElem_mem hlt)
    have hgo : ∀ t : Word, t.length = 4 →
        W4 (expandAux nk fuel (i + 1) (xorW (ws.getD (nk - 1) []) t :: ws)) ∧
        (expandAux nk fuel (i + 1) (xorW (ws.getD (nk - 1) []) t :: ws)).length = ws.length + (fuel + 1) := by
      intro t h4
      obtain ⟨a, b⟩ := expandAux_shape nk hnk fuel (i + 1) (xorW (ws.getD (nk - 1) []) t :: ws)
        (W4_cons.mpr ⟨by rw [xorW_len, hback, h4]; rfl, hw⟩) (by simp; omega)
      exact ⟨a, by rw [b]; simp; omega⟩
    apply hgo
    obtain ⟨p0, p1, p2, p3, hp⟩ := len4 _ hprev
    rw [hp]
    split
    · simp [subWord, rotWord]
    · split
      · simp [subWord]
      · rfl

theorem roundKeysAux_shape (ws : List Word) (hw : W4 ws) :
    (roundKeysAux ws).length = ws.length / 4 ∧ RK (roundKeysAux ws) := by
  fun_induction roundKeysAux ws with
  | case1 a b c d r ih =>
    obtain ⟨ha, hw⟩ := W4_cons.mp hw
    obtain ⟨hb, hw⟩ := W4_cons.mp hw
    obtain ⟨hc, hw⟩ := W4_cons.mp hw
    obtain ⟨hd, hw⟩ := W4_cons.mp hw
    exact ⟨by simp [(ih hw).1]; omega, RK_cons.mpr ⟨by simp [ha, hb, hc, hd], (ih hw).2⟩⟩
  | case2 ws h => exact ⟨by have := lt4_of_not_cons4 ws h; simp; omega, by simp [RK]⟩

theorem roundKeys_shape (key : Bytes) (hk : key.length = 16 ∨ key.length = 24 ∨ key.length = 32) :
    RK (roundKeys key) ∧ 2 ≤ (roundKeys key).length := by
  unfold roundKeys
  generalize hnk : key.length / 4 = nk
  obtain ⟨kl, kw⟩ := keyWords_shape key
  obtain ⟨ew, el⟩ := expandAux_shape nk (by omega) (4 * (nk + 6 + 1) - nk) nk (keyWords key).reverse
    (fun x hx => kw x (by simpa using hx)) (by simp [kl, hnk])
  obtain ⟨rl, rk⟩ := roundKeysAux_shape (expandAux nk (4 * (nk + 6 + 1) - nk) nk (keyWords key).reverse).reverse
    (fun x hx => ew x (by simpa using hx))
  refine ⟨rk, ?_⟩
  rw [rl, List.length_reverse, el, List.length_reverse, kl]
  omega

/-! Nearly all the kernel's work on a known-answer vector is the S-box lookups of the rounds, each a walk down a list.
`aesE_eq_look` is `aesE` with the S-box read off the packed table by `look`, through `encRoundsBy`: `encRounds` with the S-box as a
parameter. -/

def encRoundsBy (sb : UInt8 → UInt8) : List (List UInt8) → State → State
  | [], s => s
  | [k], s => addRoundKey (shiftRows (s.map sb)) k
  | k :: ks, s => encRoundsBy sb ks (addRoundKey (mixColumns (shiftRows (s.map sb))) k)

def encBlockBy (sb : UInt8 → UInt8) (rks : List (List UInt8)) (b : Bytes) : Bytes :=
  match rks with
  | [] => b
  | k0 :: ks => encRoundsBy sb ks (addRoundKey b k0)

theorem encRounds_eq_by : ∀ (ks : List (List UInt8)) (s : State), encRounds ks s = encRoundsBy sbox ks s
  | [], _ => rfl
  | [_], _ => rfl
  | k :: k' :: r, s => by
    simp only [encRounds, encRoundsBy]
    exact encRounds_eq_by (k' :: r) _

theorem aesE_eq_look (key : Bytes) : aesE key = encBlockBy (fun x => UInt8.ofNat (look sboxT x.toNat)) (roundKeys key) := by
  rw [← sbox_eq_look]
  funext b
  show encBlockRK (roundKeys key) b = _
  cases roundKeys key <;> simp [encBlockRK, encBlockBy, encRounds_eq_by]

end Psec.AES

namespace Psec
open Psec.AES

theorem refAes_laws (k b : Bytes) (hk : aesKeyOk k = true) (hb : b.length = 16) :
    AES.aesD k (AES.aesE k b) = b ∧ AES.aesE k (AES.aesD k b) = b ∧ (AES.aesE k b).length = 16 ∧ (AES.aesD k b).length = 16 := by
  obtain ⟨hr, h2⟩ := roundKeys_shape k ((aesKeyOk_iff k).mp hk)
  obtain ⟨a1, a2⟩ := dec_enc_block _ hr h2 b hb
  obtain ⟨b1, b2⟩ := enc_dec_block _ hr h2 b hb
  exact ⟨a1, b1, a2, b2⟩

end Psec
