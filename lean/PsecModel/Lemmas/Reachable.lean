import PsecModel.Lemmas.Parse
import PsecModel.Lemmas.Header
import PsecModel.Props.C17
/-! `Header.WF` is an invariant of the public API: the hypothesis under which C15's `wrap_errors` speaks of every object the API
can produce. -/
namespace Psec.Props.C15
open Psec.Tr31

theorem optBlocks_spec (t : PyStr) : LoopSpec (t.drop 16) 0 [] (optBlocks t) := loadLoop_spec _ _ 0 []

theorem fresh_wf : Header.fresh.WF :=
  ⟨by decide, ⟨rfl, by decide⟩, ⟨rfl, by decide⟩, ⟨rfl, by decide⟩, ⟨rfl, by decide⟩, ⟨rfl, by decide⟩, ⟨rfl, by decide⟩,
   fun p hp => (by cases hp), (by simp [Header.fresh])⟩

theorem fixedPart_wf (t : PyStr) (d : Dict) (h : HeadOK t) (hd : DictWF d) : (fixedPart t d).WF :=
  have s := fun a b hb => slice_ok t a b h.1 h.2.1 hb
  ⟨h.2.2, s 5 7 (by decide), s 7 8 (by decide), s 8 9 (by decide), s 9 11 (by decide), s 11 12 (by decide),
    s 14 16 (by decide), hd.1, hd.2⟩

/-- C15: `Header.load` leaves a well-formed object on every path, including the mixed state after a failure part-way -/
theorem load_wf (σ : Header) (hw : σ.WF) (t : PyStr) : (σ.load t).2.WF := by
  rw [load_eq]
  split
  · split
    · exact fixedPart_wf t _ ‹_› ((optBlocks_spec t).wf ⟨fun _ h => (nomatch h), List.nodup_nil⟩)
    · exact fixedPart_wf t _ ‹_› hw.dictWF
  · exact hw

theorem liftH_wf (kb : KB) (r : R Header) (hw : kb.header.WF) (hr : ∀ h, r = .ok h → h.WF) :
    (liftH kb r).2.header.WF := by
  cases r with
  | error e => exact hw
  | ok h => exact hr h rfl

theorem dictDel_sublist (d d' : Dict) (k : PyStr) (h : dictDel d k = some d') : d'.Sublist d := by
  induction d generalizing d' with
  | nil => cases h
  | cons p r ih =>
    simp only [dictDel] at h
    split at h
    · cases h; exact List.sublist_cons_self _ _
    · cases hr : dictDel r k with
      | none => rw [hr] at h; cases h
      | some r' => rw [hr] at h; cases h; exact (ih r' hr).cons_cons p

theorem DictWF.sublist {d d' : Dict} (hd : DictWF d) (hs : d'.Sublist d) : DictWF d' :=
  ⟨fun p hp => hd.1 p (hs.subset hp), (hs.map Prod.fst).nodup hd.2⟩

/-- C15: every public operation preserves well-formedness of the header -/
theorem step_wf (c : Ciphers) (kb : KB) (hw : kb.header.WF) (op : Op) : (step c kb op).2.header.WF := by
  cases op with
  | unwrap s => show (KB.unwrap c kb s).2.header.WF; rw [unwrap_eq]; exact load_wf kb.header hw s
  | load s => exact load_wf kb.header hw s
  | setField i v =>
    rcases i with _ | _ | _ | _ | _ | _ <;> refine liftH_wf kb _ hw fun h' e => ?_
    · unfold setVersionId at e
      split at e <;> cases e
      exact { hw with ver := ‹_› }
    · obtain ⟨hp, e⟩ := guard_eq_ok.mp e
      cases e
      exact { hw with ku := by simpa using hp }
    · obtain ⟨hp, e⟩ := guard_eq_ok.mp e
      cases e
      exact { hw with alg := by simpa using hp }
    · obtain ⟨hp, e⟩ := guard_eq_ok.mp e
      cases e
      exact { hw with mou := by simpa using hp }
    · obtain ⟨hp, e⟩ := guard_eq_ok.mp e
      cases e
      exact { hw with vn := by simpa using hp }
    · obtain ⟨hp, e⟩ := guard_eq_ok.mp e
      cases e
      exact { hw with ex := by simpa using hp }
  | setBlock i v =>
    simp only [step]
    split
    · exact hw
    · rename_i d hd
      obtain ⟨hb, rfl⟩ := (blocksSet_spec kb.header.blocks i v).2 d hd
      have := dictSet_wf kb.header.blocks i v hw.dictWF hb
      exact { hw with blocks := this.1, nodup := this.2 }
  | delBlock i =>
    simp only [step, blocksDel]
    split
    · exact hw
    · rename_i d hd
      split at hd
      · cases hd
      · cases hd
        have := DictWF.sublist hw.dictWF (dictDel_sublist _ _ i ‹_›)
        exact { hw with blocks := this.1, nodup := this.2 }
  | _ => exact hw

/-- C15: after any sequence of operations on a fresh object (constructing from a string is a `load` on one) the header is well
formed -/
theorem reachable_wf (c : Ciphers) (kbpk : Bytes) (ops : List Op) :
    (Props.C17.run c { kbpk := kbpk, header := Header.fresh } ops).header.WF := by
  suffices h : ∀ (kb : KB), kb.header.WF → (Props.C17.run c kb ops).header.WF from h _ fresh_wf
  induction ops with
  | nil => intro kb hw; exact hw
  | cons op r ih =>
    intro kb hw
    simp only [Props.C17.run, List.foldl_cons]
    exact ih _ (step_wf c kb hw op)

end Psec.Props.C15
