import PsecModel.Props.C06
/-!
# C06, format 4: what an acceptance under the wrong PAN would have to be

The cryptographic event the full PAN-binding claim rests on (`StructuredHit`): the 16-byte block `E(pinField) ⊕ F ⊕ F'`, at a
known non-zero difference `F ⊕ F'` from the genuine intermediate block, decrypts under the key to a *well-formed* format-4 PIN field.
An estimate, not proved here (it is cryptography): the decoder leaves the 16 random nibbles free, so about
(10⁴ + … + 10¹²) · 2⁶⁴ ≈ 2¹⁰⁴ of the 2¹²⁸ fields are well formed, and a pseudo-random permutation produces a hit with
probability about 2⁻²⁴ per attempt; a hit that decodes to the *same* PIN has probability about 2⁻⁶⁴.
-/
namespace Psec.Props.C06
open Psec.Pinblock Psec.Spec

def StructuredHit (c : Ciphers) (key : Bytes) (pf F F' : Bytes) : Prop :=
  ∃ p', decodePinFieldIso4 (c.aesD key (xorBytes (xorBytes (c.aesE key pf) F) F')) = .ok p'

/-- **Reduction.** An acceptance under a PAN with a different PAN field exhibits a structured hit, and the field it
decodes is not the genuine PIN field. -/
theorem iso4_wrong_pan_reduction (c : Ciphers) (hc : c.Lawful) (key : Bytes) (pin pan pan' : PyStr) (rnd : Bytes)
    (hk : aesKeyOk key = true) (hpin : pinOk pin = true) (hr : rnd.length = 8)
    (h1 : 1 ≤ pan.length) (h19 : pan.length ≤ 19) (hn : asciiNumeric pan = true)
    (h1' : 1 ≤ pan'.length) (h19' : pan'.length ≤ 19) (hn' : asciiNumeric pan' = true)
    (hF : iso4PanField pan ≠ iso4PanField pan')
    (b : Bytes) (hb : encipherPinblockIso4 c key pin pan rnd = .ok b)
    (p' : PyStr) (hacc : decipherPinblockIso4 c key b pan' = .ok p') :
    StructuredHit c key (iso4PinField pin rnd) (iso4PanField pan) (iso4PanField pan') ∧
    c.aesD key (xorBytes (xorBytes (c.aesE key (iso4PinField pin rnd)) (iso4PanField pan)) (iso4PanField pan')) ≠ iso4PinField pin rnd := by
  obtain ⟨b0, hb0, hdec⟩ := iso4_decipher_other_pan c hc key pin pan pan' rnd hk hpin hr h1 h19 hn h1' h19' hn'
  cases hb.symm.trans hb0
  refine ⟨⟨p', hdec ▸ hacc⟩, ?_⟩
  have hfl := Props.C05.iso4PinField_length pin rnd hpin hr
  have := iso4_pan_binding_partial c hc key (iso4PinField pin rnd) (iso4PanField pan) (iso4PanField pan') hk hfl
    (Props.C05.iso4PanField_length pan h19) (Props.C05.iso4PanField_length pan' h19') hF
  rwa [decipherField, hc.aes_dec_enc key _ hk (by rw [xorBytes_length, hc.aes_enc_len key _ hk hfl])] at this

/-- **Format 4 PAN binding, full, under the named hypothesis**: if no structured hit exists for this key, PIN field and
pair of PAN fields, a block enciphered for one PAN is rejected under every PAN whose PAN field differs. -/
theorem C06_iso4_binding_of_no_structured_hit (c : Ciphers) (hc : c.Lawful) (key : Bytes) (pin pan pan' : PyStr) (rnd : Bytes)
    (hk : aesKeyOk key = true) (hpin : pinOk pin = true) (hr : rnd.length = 8)
    (h1 : 1 ≤ pan.length) (h19 : pan.length ≤ 19) (hn : asciiNumeric pan = true)
    (h1' : 1 ≤ pan'.length) (h19' : pan'.length ≤ 19) (hn' : asciiNumeric pan' = true)
    (hF : iso4PanField pan ≠ iso4PanField pan')
    (hno : ¬ StructuredHit c key (iso4PinField pin rnd) (iso4PanField pan) (iso4PanField pan'))
    (b : Bytes) (hb : encipherPinblockIso4 c key pin pan rnd = .ok b) :
    ∃ e, decipherPinblockIso4 c key b pan' = .error e := by
  cases hd : decipherPinblockIso4 c key b pan' with
  | error e => exact ⟨e, rfl⟩
  | ok p' =>
    exact absurd (iso4_wrong_pan_reduction c hc key pin pan pan' rnd hk hpin hr h1 h19 hn h1' h19' hn' hF b hb p' hd).1 hno

end Psec.Props.C06
