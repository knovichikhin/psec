import PsecModel.Lemmas.Header
import PsecModel.Lemmas.Wrap
import PsecModel.Lemmas.Kdf
/-!
`_b_wrap` … `_d_unwrap` are `Method.wrap` and `Method.unwrap` of records among which the version id selects (`methodOf`): B and D
are one MAC-then-encrypt method with different parts (`methodMtE`), A and C another (`methodC`). Two things are proved once per
method and used for any: `Method.Sound` (unpacking undoes packing) and `Method.Safe` (no failure other than rejecting the block).
-/
namespace Psec.Tr31
open Psec.Props.C19

/-- what the binding methods B (TDEA CMAC), D (AES CMAC) and A/C (key variants, CBC-MAC) differ in -/
structure Method where
  bs : Nat
  ml : Nat
  kbpkLens : List Nat
  /-- KBPK ↦ (encryption key, authentication key) -/
  derive : Bytes → R (Bytes × Bytes)
  /-- clear key data ↦ (encrypted key data, MAC) -/
  pack : Bytes × Bytes → PyStr → Bytes → R (Bytes × Bytes)
  /-- (encrypted key data, MAC) ↦ clear key data, once the MAC has been verified -/
  unpack : Bytes × Bytes → PyStr → Bytes → Bytes → R Bytes
  /-- KBPK, header, encrypted key data, MAC ↦ clear key data, total and without any check: what `unpack` returns when it
  succeeds. C14 states that a key block determines its clear key data with `recoverDispatch`, which selects among these. -/
  recover : Bytes → PyStr → Bytes → Bytes → Bytes

/-- `_b_wrap` / `_c_wrap` / `_d_wrap` -/
def Method.wrap (M : Method) (kbpk : Bytes) (hdr : PyStr) (key : Bytes) (extraPad : Nat) (entropy : Bytes) : R PyStr :=
  if kbpk.length ∉ M.kbpkLens then .error .keyblock else
  M.derive kbpk >>= fun ks =>
  if entropy.length ≠ M.bs - (2 + key.length + extraPad) % M.bs + extraPad then .error (.other "entropy") else
  clearKeyData key entropy >>= fun clear =>
  M.pack ks hdr clear >>= fun em => .ok (hdr ++ toHexU em.1 ++ toHexU em.2)

/-- `_b_unwrap` / `_c_unwrap` / `_d_unwrap` -/
def Method.unwrap (M : Method) (kbpk : Bytes) (hdr : PyStr) (kd mac : Bytes) : R Bytes :=
  if kbpk.length ∉ M.kbpkLens then .error .keyblock else
  if kd.length < M.bs ∨ kd.length % M.bs ≠ 0 then .error .keyblock else
  M.derive kbpk >>= fun ks => M.unpack ks hdr kd mac >>= extractKey

/-- B and D: MAC over the clear key data, which then serves as IV -/
def packMtE (genMac : Bytes → PyStr → Bytes → R Bytes) (enc : Bytes → Bytes → Bytes → R Bytes)
    (ks : Bytes × Bytes) (hdr : PyStr) (clear : Bytes) : R (Bytes × Bytes) :=
  genMac ks.2 hdr clear >>= fun mac => enc ks.1 mac clear >>= fun ct => .ok (ct, mac)

def unpackMtE (genMac : Bytes → PyStr → Bytes → R Bytes) (dec : Bytes → Bytes → Bytes → R Bytes)
    (ks : Bytes × Bytes) (hdr : PyStr) (kd mac : Bytes) : R Bytes :=
  dec ks.1 mac kd >>= fun clear => genMac ks.2 hdr clear >>= fun mac' => if mac' ≠ mac then .error .keyblock else .ok clear

/-- B and D are one method with different parts. The CMAC is not truncated (`ml := bs`), so that it can serve as the IV. -/
def methodMtE (lens : List Nat) (bs : Nat) (derive : Bytes → R (Bytes × Bytes)) (genMac : Bytes → PyStr → Bytes → R Bytes)
    (enc dec : Bytes → Bytes → Bytes → R Bytes) (recover : Bytes → Bytes → Bytes → Bytes) : Method where
  bs := bs
  ml := bs
  kbpkLens := lens
  derive := derive
  pack := packMtE genMac enc
  unpack := unpackMtE genMac dec
  recover kbpk _ := recover kbpk

def methodB (c : Ciphers) : Method :=
  methodMtE [16, 24] 8 (bDerive c) (bGenerateMac c) (Des.encryptTdesCbc c) (Des.decryptTdesCbc c) (bRecover c)

def methodD (c : Ciphers) : Method :=
  methodMtE [16, 24, 32] 16 (dDerive c) (dGenerateMac c) (Aes.encryptAesCbc c) (Aes.decryptAesCbc c) (dRecover c)

/-- A and C: encrypt under an IV taken from the header, MAC over the encrypted key data -/
def methodC (c : Ciphers) : Method where
  bs := 8
  ml := 4
  kbpkLens := [8, 16, 24]
  derive kbpk := .ok (cDerive kbpk)
  pack ks hdr clear :=
    match encodeAscii hdr with
    | none => .error (.other "UnicodeEncodeError")
    | some hb => Des.encryptTdesCbc c ks.1 (hb.take 8) clear >>= fun ct => cGenerateMac c ks.2 hdr ct >>= fun mac => .ok (ct, mac)
  unpack ks hdr kd mac :=
    cGenerateMac c ks.2 hdr kd >>= fun mac' =>
    if mac' ≠ mac then .error .keyblock else
    match encodeAscii hdr with
    | none => .error (.other "UnicodeEncodeError")
    | some hb => Des.decryptTdesCbc c ks.1 (hb.take 8) kd
  recover := cRecover c

/-! The model propagates errors by `match x with | .error e => .error e | .ok a => …`. Matchers over the same closed type unfold to the
same `casesOn`, whichever definition made them: once the binds of a right-hand side are written as such matches (`bind_eq_match`,
after `bind_assoc` has nested them to the right), the two sides of `bWrap_eq` … `cUnwrap_eq` are definitionally equal. Stated for
any `α` the lemmas would not do: `rfl` compares two matchers as functions, and one that takes `α` is not a function of the model's
arguments. -/

theorem bind_eq_match {β : Type} (x : R Bytes) (f : Bytes → R β) :
    x >>= f = match x with | .error e => .error e | .ok a => f a := by cases x <;> rfl

theorem bind_eq_match2 {β : Type} (x : R (Bytes × Bytes)) (f : Bytes × Bytes → R β) :
    x >>= f = match x with | .error e => .error e | .ok (a, b) => f (a, b) := by
  cases x with
  | error e => rfl
  | ok p => cases p; rfl

theorem bWrap_eq (c : Ciphers) (kbpk : Bytes) (hdr : PyStr) (key : Bytes) (extraPad : Nat) (entropy : Bytes) :
    bWrap c kbpk hdr key extraPad entropy = (methodB c).wrap kbpk hdr key extraPad entropy := by
  unfold bWrap Method.wrap methodB methodMtE packMtE
  simp only [List.mem_cons, List.not_mem_nil, or_false, bind_assoc, ok_bind]
  simp only [bind_eq_match, bind_eq_match2]
  rfl

theorem dWrap_eq (c : Ciphers) (kbpk : Bytes) (hdr : PyStr) (key : Bytes) (extraPad : Nat) (entropy : Bytes) :
    dWrap c kbpk hdr key extraPad entropy = (methodD c).wrap kbpk hdr key extraPad entropy := by
  unfold dWrap Method.wrap methodD methodMtE packMtE
  simp only [List.mem_cons, List.not_mem_nil, or_false, bind_assoc, ok_bind]
  simp only [bind_eq_match, bind_eq_match2]
  rfl

theorem cWrap_eq (c : Ciphers) (kbpk : Bytes) (hdr : PyStr) (key : Bytes) (extraPad : Nat) (entropy : Bytes) :
    cWrap c kbpk hdr key extraPad entropy = (methodC c).wrap kbpk hdr key extraPad entropy := by
  unfold cWrap Method.wrap methodC
  simp only [List.mem_cons, List.not_mem_nil, or_false, ok_bind]
  cases encodeAscii hdr <;> simp only [bind_assoc, ok_bind, error_bind] <;> simp only [bind_eq_match] <;> rfl

theorem bUnwrap_eq (c : Ciphers) (kbpk : Bytes) (hdr : PyStr) (kd mac : Bytes) :
    bUnwrap c kbpk hdr kd mac = (methodB c).unwrap kbpk hdr kd mac := by
  unfold bUnwrap Method.unwrap methodB methodMtE unpackMtE
  simp only [List.mem_cons, List.not_mem_nil, or_false, bind_assoc, ok_bind, guard_bind]
  simp only [bind_eq_match, bind_eq_match2]
  rfl

theorem dUnwrap_eq (c : Ciphers) (kbpk : Bytes) (hdr : PyStr) (kd mac : Bytes) :
    dUnwrap c kbpk hdr kd mac = (methodD c).unwrap kbpk hdr kd mac := by
  unfold dUnwrap Method.unwrap methodD methodMtE unpackMtE
  simp only [List.mem_cons, List.not_mem_nil, or_false, bind_assoc, ok_bind, guard_bind]
  simp only [bind_eq_match, bind_eq_match2]
  rfl

theorem cUnwrap_eq (c : Ciphers) (kbpk : Bytes) (hdr : PyStr) (kd mac : Bytes) :
    cUnwrap c kbpk hdr kd mac = (methodC c).unwrap kbpk hdr kd mac := by
  unfold cUnwrap Method.unwrap methodC
  simp only [List.mem_cons, List.not_mem_nil, or_false, ok_bind]
  cases encodeAscii hdr <;> simp only [bind_assoc, guard_bind, error_bind] <;> simp only [bind_eq_match] <;> rfl

theorem Method.unwrap_ok {M : Method} {kbpk : Bytes} {hdr : PyStr} {kd mac key : Bytes} (h : M.unwrap kbpk hdr kd mac = .ok key) :
    kbpk.length ∈ M.kbpkLens ∧ M.bs ≤ kd.length ∧ kd.length % M.bs = 0 ∧
      ∃ ks clear, M.derive kbpk = .ok ks ∧ M.unpack ks hdr kd mac = .ok clear ∧ extractKey clear = .ok key := by
  unfold Method.unwrap at h
  obtain ⟨hk, hl, h⟩ := (guard_eq_ok.mp h).imp_right guard_eq_ok.mp
  obtain ⟨ks, hd, h⟩ := bind_eq_ok.mp h
  obtain ⟨clear, hu, he⟩ := bind_eq_ok.mp h
  exact ⟨Decidable.not_not.mp hk, by omega, by omega, ks, clear, hd, hu, he⟩

theorem Method.unwrap_badKbpk {M : Method} {kbpk : Bytes} (h : kbpk.length ∉ M.kbpkLens) (hdr : PyStr) (kd mac : Bytes) :
    M.unwrap kbpk hdr kd mac = .error .keyblock := by
  rw [Method.unwrap, if_pos h]

/-- what makes wrap-then-unwrap work: unpacking what was packed gives the clear key data back -/
structure Method.Sound (M : Method) : Prop where
  unpack_pack : ∀ kbpk ks hdr clear ct mac, kbpk.length ∈ M.kbpkLens → M.derive kbpk = .ok ks →
    M.pack ks hdr clear = .ok (ct, mac) →
    ct.length = clear.length ∧ mac.length = M.ml ∧ M.unpack ks hdr ct mac = .ok clear ∧ M.recover kbpk hdr ct mac = clear

theorem Method.wrap_ok {M : Method} (hM : M.Sound) (hpos : 0 < M.bs) (kbpk : Bytes) (hdr : PyStr) (key : Bytes) (extraPad : Nat)
    (entropy : Bytes) (s : PyStr) (h : M.wrap kbpk hdr key extraPad entropy = .ok s) :
    kbpk.length ∈ M.kbpkLens ∧ ∃ clear ct mac, clearKeyData key entropy = .ok clear ∧
      entropy.length = M.bs - (2 + key.length + extraPad) % M.bs + extraPad ∧ ct.length = clear.length ∧
      mac.length = M.ml ∧ s = hdr ++ toHexU ct ++ toHexU mac ∧
      M.unwrap kbpk hdr ct mac = extractKey clear ∧ M.recover kbpk hdr ct mac = clear := by
  unfold Method.wrap at h
  split at h; · cases h
  rename_i hk
  obtain ⟨ks, hd, h⟩ := bind_eq_ok.mp h
  split at h; · cases h
  rename_i he
  obtain ⟨clear, hcl, h⟩ := bind_eq_ok.mp h
  obtain ⟨⟨ct, mac⟩, hp, h⟩ := bind_eq_ok.mp h
  cases h
  have hk := Decidable.not_not.mp hk
  have he := Decidable.not_not.mp he
  obtain ⟨hl, hm, hu, hr⟩ := hM.unpack_pack kbpk ks hdr clear ct mac hk hd hp
  refine ⟨hk, clear, ct, mac, hcl, he, hl, hm, rfl, ?_, hr⟩
  obtain ⟨h0, hmod⟩ := clear_dataOk M.bs hpos key entropy clear extraPad hcl he
  rw [← hl] at h0 hmod
  have hlen : ¬ (ct.length < M.bs ∨ ct.length % M.bs ≠ 0) := by
    have := Nat.le_of_dvd h0 (Nat.dvd_of_mod_eq_zero hmod); omega
  rw [Method.unwrap, if_neg (not_not_intro hk), if_neg hlen, hd, ok_bind, hu, ok_bind]

variable {lens : List Nat} {bs : Nat} {derive : Bytes → R (Bytes × Bytes)} {genMac : Bytes → PyStr → Bytes → R Bytes}
  {enc dec : Bytes → Bytes → Bytes → R Bytes} {recover : Bytes → Bytes → Bytes → Bytes}

theorem unpackMtE_ok {ks : Bytes × Bytes} {hdr : PyStr} {kd mac clear : Bytes} (h : unpackMtE genMac dec ks hdr kd mac = .ok clear) :
    dec ks.1 mac kd = .ok clear ∧ genMac ks.2 hdr clear = .ok mac := by
  unfold unpackMtE at h
  obtain ⟨cl, hd, h⟩ := bind_eq_ok.mp h
  obtain ⟨m, hm, h⟩ := bind_eq_ok.mp h
  obtain ⟨hmm, e⟩ := guard_eq_ok.mp h
  cases e
  exact ⟨hd, Decidable.not_not.mp hmm ▸ hm⟩

/-- MAC-then-encrypt is sound whenever decryption (`dec`, and in closed form `rec`) undoes a successful encryption -/
theorem methodMtE_sound {rec : Bytes → Bytes → Bytes → Bytes}
    (hinv : ∀ k iv d ct, enc k iv d = .ok ct → iv.length = bs ∧ ct.length = d.length ∧ dec k iv ct = .ok d ∧ rec k iv ct = d)
    (hrec : ∀ kbpk ks ct mac, derive kbpk = .ok ks → recover kbpk ct mac = rec ks.1 mac ct) :
    (methodMtE lens bs derive genMac enc dec recover).Sound where
  unpack_pack kbpk ks hdr clear ct mac _ hd hp := by
    obtain ⟨mac', hm, h⟩ := bind_eq_ok.mp hp
    obtain ⟨ct', he, h⟩ := bind_eq_ok.mp h
    cases h
    obtain ⟨h1, h2, h3, h4⟩ := hinv _ _ _ _ he
    refine ⟨h2, h1, ?_, (hrec kbpk ks ct mac hd).trans h4⟩
    show unpackMtE genMac dec ks hdr ct mac = .ok clear
    rw [unpackMtE, h3, ok_bind, hm, ok_bind, if_neg (not_not_intro rfl)]

theorem methodB_sound (c : Ciphers) (hc : c.Lawful) : (methodB c).Sound :=
  methodMtE_sound (tdes_cbc_enc_inv c hc) fun kbpk ks ct mac hd => by
    rw [bRecover, show bDerive c kbpk = .ok ks from hd]

theorem methodD_sound (c : Ciphers) (hc : c.Lawful) : (methodD c).Sound :=
  methodMtE_sound (aes_cbc_enc_inv c hc) fun kbpk ks ct mac hd => by
    rw [dRecover, show dDerive c kbpk = .ok ks from hd]

theorem methodC_keyOk (c : Ciphers) (k : Bytes) (h : k.length ∈ (methodC c).kbpkLens) : tdesKeyOk k = true :=
  (tdesKeyOk_iff k).mpr (by simpa [methodC] using h)

theorem methodC_sound (c : Ciphers) (hc : c.Lawful) : (methodC c).Sound where
  unpack_pack kbpk ks hdr clear ct mac hk hd hp := by
    cases hd
    have hkak := methodC_keyOk c (cDerive kbpk).2 ((cDerive_len kbpk).2.symm ▸ hk)
    simp only [methodC] at hp ⊢
    cases hea : encodeAscii hdr with
    | none => rw [hea] at hp; cases hp
    | some hb =>
      rw [hea] at hp
      obtain ⟨ct', he, hp⟩ := bind_eq_ok.mp hp
      obtain ⟨mac', hm, hp⟩ := bind_eq_ok.mp hp
      cases hp
      obtain ⟨-, hl, hdec, hrec⟩ := tdes_cbc_enc_inv c hc _ _ _ _ he
      have hml : mac.length = 4 := by
        obtain ⟨m, hm2, hm3⟩ := cbcMac_des_ok c hc (cDerive kbpk).2 (hb ++ ct) 4 hkak (by decide)
        unfold cGenerateMac at hm
        rw [hea] at hm
        cases hm2.symm.trans hm; exact hm3
      refine ⟨hl, hml, ?_, ?_⟩
      · rw [hm, ok_bind, if_neg (not_not_intro rfl)]; exact hdec
      · unfold cRecover; rw [hea]; exact hrec

def IsKb (e : Err) : Prop := e = .keyblock

theorem extractKey_onlyErr (clear : Bytes) : OnlyErr IsKb (extractKey clear) := by
  unfold extractKey
  exact .ite (fun _ => .error rfl) fun _ => .ite (fun _ => .error rfl) fun _ => .ok _

/-- on admissible input a method fails only by rejecting the block (`8 ≤ hdr.length`: versions A and C take their IV from the
first eight bytes of the header) -/
structure Method.Safe (M : Method) : Prop where
  derive_ok : ∀ kbpk, kbpk.length ∈ M.kbpkLens →
    ∃ ks, M.derive kbpk = .ok ks ∧ ks.1.length = kbpk.length ∧ ks.2.length = kbpk.length
  pack_ok : ∀ ks hdr clear, ks.1.length ∈ M.kbpkLens → ks.2.length ∈ M.kbpkLens → asciiPrintable hdr = true →
    8 ≤ hdr.length → DataOk M.bs clear → OnlyErr (fun _ => False) (M.pack ks hdr clear)
  unpack_err : ∀ ks hdr kd mac, ks.1.length ∈ M.kbpkLens → ks.2.length ∈ M.kbpkLens → asciiPrintable hdr = true →
    8 ≤ hdr.length → mac.length = M.ml → DataOk M.bs kd → OnlyErr IsKb (M.unpack ks hdr kd mac)

theorem Method.unwrap_onlyErr {M : Method} (hM : M.Safe) (kbpk : Bytes) (hdr : PyStr) (kd mac : Bytes)
    (hp : asciiPrintable hdr = true) (hl : 8 ≤ hdr.length) (hm : mac.length = M.ml) (hbs : 0 < M.bs) :
    OnlyErr IsKb (M.unwrap kbpk hdr kd mac) := by
  unfold Method.unwrap
  refine .ite (fun _ => .error rfl) fun hk => .ite (fun _ => .error rfl) fun hd => ?_
  have hk := Decidable.not_not.mp hk
  obtain ⟨ks, hks, h1, h2⟩ := hM.derive_ok kbpk hk
  rw [hks, ok_bind]
  exact .bind (hM.unpack_err ks hdr kd mac (h1 ▸ hk) (h2 ▸ hk) hp hl hm ⟨by omega, by omega⟩)
    fun clear _ => extractKey_onlyErr clear

theorem Method.wrap_onlyErr {M : Method} (hM : M.Safe) (hbs : 0 < M.bs) (kbpk : Bytes) (hdr : PyStr)
    (key : Bytes) (extraPad : Nat) (entropy : Bytes) (hp : asciiPrintable hdr = true) (hl : 8 ≤ hdr.length)
    (hk8 : key.length * 8 < 65536) :
    OnlyErr (fun e => e = .keyblock ∨ e = .other "entropy") (M.wrap kbpk hdr key extraPad entropy) := by
  unfold Method.wrap
  refine .ite (fun _ => .error (.inl rfl)) fun hk => ?_
  have hk := Decidable.not_not.mp hk
  obtain ⟨ks, hks, h1, h2⟩ := hM.derive_ok kbpk hk
  rw [hks, ok_bind]
  refine .ite (fun _ => .error (.inr rfl)) fun he => ?_
  obtain ⟨clear, hcl⟩ := clearKeyData_ok key entropy hk8
  rw [hcl, ok_bind]
  have hdo := clear_dataOk M.bs hbs key entropy clear extraPad hcl (Decidable.not_not.mp he)
  exact .bind ((hM.pack_ok ks hdr clear (h1 ▸ hk) (h2 ▸ hk) hp hl hdo).mono fun _ => False.elim) fun _ _ => .ok _

/-- MAC-then-encrypt is safe when, for keys of the admitted lengths (`ok`), derivation, MAC and both CBC directions succeed -/
theorem methodMtE_safe {encU decU : Bytes → Bytes → Bytes → Bytes} {ok : Bytes → Prop}
    (hok : ∀ k : Bytes, k.length ∈ lens → ok k)
    (hder : ∀ kbpk, kbpk.length ∈ lens →
      ∃ kbek kbak, derive kbpk = .ok (kbek, kbak) ∧ kbek.length = kbpk.length ∧ kbak.length = kbpk.length)
    (hgen : ∀ k hdr d, ok k → asciiPrintable hdr = true → ∃ m, genMac k hdr d = .ok m ∧ m.length = bs)
    (henc : ∀ k iv d, ok k → iv.length = bs → DataOk bs d → enc k iv d = .ok (encU k iv d))
    (hdec : ∀ k iv d, ok k → iv.length = bs → DataOk bs d → dec k iv d = .ok (decU k iv d)) :
    (methodMtE lens bs derive genMac enc dec recover).Safe := by
  refine ⟨fun kbpk hk => ?_, fun ks hdr clear k1 k2 hp _ hcl => ?_, fun ks hdr kd mac k1 k2 hp _ hm hkd => ?_⟩
  · obtain ⟨kbek, kbak, hd, h⟩ := hder kbpk hk
    exact ⟨_, hd, h⟩
  · obtain ⟨m, hm, hml⟩ := hgen ks.2 hdr clear (hok _ k2) hp
    simp only [methodMtE, packMtE, hm, ok_bind, henc ks.1 m clear (hok _ k1) hml hcl]
    exact .ok _
  · obtain ⟨m, hg, -⟩ := hgen ks.2 hdr (decU ks.1 mac kd) (hok _ k2) hp
    simp only [methodMtE, unpackMtE, hdec ks.1 mac kd (hok _ k1) hm hkd, ok_bind, hg]
    exact .ite (fun _ => .error rfl) fun _ => .ok _

theorem methodB_safe (c : Ciphers) (hc : c.Lawful) : (methodB c).Safe :=
  methodMtE_safe (ok := (tdesKeyOk · = true))
    (fun k h => (tdesKeyOk_iff k).mpr (.inr (by simpa using h)))
    (fun kbpk hk => bDerive_ok c hc kbpk (by simpa using hk)) (bGenerateMac_ok c hc) (tdes_cbc_enc_ok c) (tdes_cbc_dec_ok c)

theorem methodD_safe (c : Ciphers) (hc : c.Lawful) : (methodD c).Safe :=
  methodMtE_safe (ok := (aesKeyOk · = true)) (fun k h => (aesKeyOk_iff k).mpr (by simpa using h))
    (fun kbpk hk => dDerive_ok c hc kbpk (by simpa using hk)) (dGenerateMac_ok c hc) (aes_cbc_enc_ok c) (aes_cbc_dec_ok c)

theorem methodC_safe (c : Ciphers) (hc : c.Lawful) : (methodC c).Safe := by
  refine ⟨fun kbpk _ => ⟨_, rfl, cDerive_len kbpk⟩, fun ks hdr clear k1 k2 hp hl hcl => ?_,
    fun ks hdr kd mac k1 k2 hp hl _ hkd => ?_⟩
  · obtain ⟨hea, hbl⟩ := encodeAscii_printable hdr hp
    have hiv : ((Spec.TR31.asciiBytes hdr).take 8).length = 8 := by rw [List.length_take, hbl]; omega
    obtain ⟨m, hm, _⟩ := cGenerateMac_ok c hc ks.2 hdr
      (cbcEncUpdate (c.tdesE ks.1) 8 (clear.length / 8) ((Spec.TR31.asciiBytes hdr).take 8) clear).1 (methodC_keyOk c _ k2) hp
    simp only [methodC, hea, tdes_cbc_enc_ok c ks.1 _ clear (methodC_keyOk c _ k1) hiv hcl, ok_bind, hm]
    exact .ok _
  · obtain ⟨hea, hbl⟩ := encodeAscii_printable hdr hp
    have hiv : ((Spec.TR31.asciiBytes hdr).take 8).length = 8 := by rw [List.length_take, hbl]; omega
    obtain ⟨m, hm, _⟩ := cGenerateMac_ok c hc ks.2 hdr kd (methodC_keyOk c _ k2) hp
    simp only [methodC, hm, ok_bind, hea]
    refine .ite (fun _ => .error rfl) fun _ => ?_
    rw [tdes_cbc_dec_ok c ks.1 _ kd (methodC_keyOk c _ k1) hiv hkd]
    exact .ok _

/-- `_wrap_dispatch` / `_unwrap_dispatch`: the method a version id selects -/
def methodOf (c : Ciphers) (ver : PyStr) : Method :=
  if ver == [66] then methodB c else if ver == [68] then methodD c else methodC c

theorem methodOf_C (c : Ciphers) {ver : PyStr} (h1 : ver ≠ [66]) (h2 : ver ≠ [68]) : methodOf c ver = methodC c := by
  simp [methodOf, h1, h2]

theorem methodOf_cases (c : Ciphers) (ver : PyStr) :
    (ver = [66] ∧ methodOf c ver = methodB c) ∨ (ver = [68] ∧ methodOf c ver = methodD c) ∨
      (ver ≠ [66] ∧ ver ≠ [68] ∧ methodOf c ver = methodC c) := by
  by_cases h1 : ver = [66]
  · exact .inl ⟨h1, h1 ▸ rfl⟩
  · by_cases h2 : ver = [68]
    · exact .inr (.inl ⟨h2, h2 ▸ rfl⟩)
    · exact .inr (.inr ⟨h1, h2, methodOf_C c h1 h2⟩)

theorem wrapDispatch_eq (c : Ciphers) (ver : PyStr) (kbpk : Bytes) (hdr : PyStr) (key : Bytes) (extraPad : Nat)
    (entropy : Bytes) :
    wrapDispatch c ver kbpk hdr key extraPad entropy = (methodOf c ver).wrap kbpk hdr key extraPad entropy := by
  unfold wrapDispatch methodOf
  split
  · exact bWrap_eq ..
  · split
    · exact dWrap_eq ..
    · exact cWrap_eq ..

theorem unwrapDispatch_eq (c : Ciphers) (ver : PyStr) (kbpk : Bytes) (hdr : PyStr) (kd mac : Bytes) :
    unwrapDispatch c ver kbpk hdr kd mac = (methodOf c ver).unwrap kbpk hdr kd mac := by
  unfold unwrapDispatch methodOf
  split
  · exact bUnwrap_eq ..
  · split
    · exact dUnwrap_eq ..
    · exact cUnwrap_eq ..

theorem methodOf_ind (c : Ciphers) {P : Method → Prop} (hB : P (methodB c)) (hD : P (methodD c)) (hC : P (methodC c))
    (ver : PyStr) : P (methodOf c ver) := by
  unfold methodOf
  split
  · exact hB
  · split <;> assumption

theorem methodOf_sound (c : Ciphers) (hc : c.Lawful) (ver : PyStr) : (methodOf c ver).Sound :=
  methodOf_ind c (methodB_sound c hc) (methodD_sound c hc) (methodC_sound c hc) ver

theorem methodOf_safe (c : Ciphers) (hc : c.Lawful) (ver : PyStr) : (methodOf c ver).Safe :=
  methodOf_ind c (methodB_safe c hc) (methodD_safe c hc) (methodC_safe c hc) ver

/-- psec's own tables (`_version_id_algo_block_size`, the MAC lengths) agree with the method the dispatch selects -/
theorem methodOf_algo (c : Ciphers) (v : PyStr) (h : versionOk v = true) :
    algoBs v = some (methodOf c v).bs ∧ macLen v = some (methodOf c v).ml := by
  rcases versionOk_cases v h with rfl | rfl | rfl | rfl <;> exact ⟨rfl, rfl⟩

theorem methodOf_spec (c : Ciphers) (v : Nat) (kbpk : Bytes) :
    (methodOf c [v]).bs = Spec.TR31.bsOf v ∧ (methodOf c [v]).ml = Spec.TR31.macLenOf v ∧
      (kbpk.length ∈ (methodOf c [v]).kbpkLens ↔ Spec.TR31.kbpkOk v kbpk = true) := by
  unfold methodOf Spec.TR31.bsOf Spec.TR31.macLenOf Spec.TR31.kbpkOk
  by_cases e66 : v = 66
  · subst e66; simp [methodB, methodMtE]
  by_cases e68 : v = 68
  · subst e68; simp [methodD, methodMtE, or_assoc]
  · simp [e66, e68, methodC, or_assoc]

end Psec.Tr31
