import PsecModel.Lemmas.SpecBlocks
import PsecModel.Lemmas.SpecCrypt
import PsecModel.Props.C15
/-! `unwrap` = the specification's verifier, on every string on which psec's documented laxities cannot show. -/
namespace Psec.Tr31
open Psec.Spec.TR31 Psec.Props.C17

theorem dec?_iff (x : PyStr) (hx : x ≠ []) (n : Nat) : dec? x = some n ↔ asciiNumeric x = true ∧ decVal x = n := by
  unfold dec? asciiNumeric
  by_cases h : x.all isDigitC = true
  · rw [if_pos ⟨h, hx⟩]
    exact ⟨fun hh => ⟨h, by injection hh⟩, fun hh => by rw [hh.2]⟩
  · rw [if_neg (fun hh => h hh.1)]
    exact ⟨fun hh => (by cases hh), fun hh => absurd hh.1 h⟩

/-- the three places where psec's reader is deliberately laxer than the grammar, excluded: whitespace between hex pairs of the
binary sections; a repeated optional-block id (psec keeps the last value in the first position); a pad-block id written in
another letter case (psec skips `pb`, `Pb`, `pB` like `PB`) -/
structure Canon (bl : List (PyStr × PyStr)) (rest : PyStr) : Prop where
  nows : ∀ ch ∈ rest, isSpaceC ch = false
  ids : ((bl.filter (fun b => b.1 ≠ [80, 66])).map Prod.fst).Nodup
  pb : ∀ b ∈ bl, isPB b.1 = true → b.1 = [80, 66]

theorem parse_of_blocksLoad (cnt : Nat) (x : PyStr) (k : Nat) (d : Dict) (h : blocksLoad cnt x = (.ok k, d)) :
    ∃ bl rest, parseBlocks cnt x = some (bl, rest) := by
  have h2 := loadLoop_parseBlocks cnt x 0 []
  cases hp : parseBlocks cnt x with
  | none =>
    rw [hp] at h2
    obtain ⟨e, he⟩ := h2
    rw [← blocksLoad, h] at he; cases he
  | some q => exact ⟨q.1, q.2, rfl⟩

/-- On a rest free of whitespace the two readers cut the binary sections alike: psec takes the MAC's characters off the end and
checks the decoded lengths, the specification checks the length of the rest before it cuts. -/
theorem sections_iff (rest : PyStr) (ml bs : Nat) (h : ∀ ch ∈ rest, isSpaceC ch = false) (kd mac : Bytes) :
    fromHexWs (lastN rest (ml * 2)) = some mac ∧ mac.length = ml ∧ fromHexWs (dropLastN rest (ml * 2)) = some kd ∧ bs ≤ kd.length ↔
    2 * ml + 2 * bs ≤ rest.length ∧ hexBytes? (rest.take (rest.length - 2 * ml)) = some kd ∧
      hexBytes? (rest.drop (rest.length - 2 * ml)) = some mac := by
  unfold lastN dropLastN hexBytes?
  rw [fromHexWs_nows _ (fun ch hc => h ch (List.mem_of_mem_drop hc)), fromHexWs_nows _ (fun ch hc => h ch (List.mem_of_mem_take hc)),
    Nat.mul_comm]
  have hl : a2bHex (rest.drop (rest.length - 2 * ml)) = some mac → a2bHex (rest.take (rest.length - 2 * ml)) = some kd →
      rest.length - (rest.length - 2 * ml) = 2 * mac.length ∧ rest.length - 2 * ml = 2 * kd.length := fun hm hk => by
    have h1 := a2bHex_len _ _ hm
    have h2 := a2bHex_len _ _ hk
    rw [List.length_drop] at h1
    rw [List.length_take, Nat.min_eq_left (Nat.sub_le _ _)] at h2
    exact ⟨h1, h2⟩
  constructor
  · rintro ⟨hm, hml, hk, hel⟩
    obtain ⟨h1, h2⟩ := hl hm hk
    exact ⟨by omega, hk, hm⟩
  · rintro ⟨hge, hk, hm⟩
    obtain ⟨h1, h2⟩ := hl hm hk
    exact ⟨hm, by omega, hk, by omega⟩

theorem specHeader_eq (s : PyStr) (h16 : 16 ≤ s.length) (bl : List (PyStr × PyStr)) :
    specHeader s bl = ⟨s.take 1, (s.take 7).drop 5, (s.take 8).drop 7, (s.take 9).drop 8, (s.take 11).drop 9, (s.take 12).drop 11,
      (s.take 16).drop 14, bl.filter (fun b => b.1 ≠ [80, 66])⟩ := by
  unfold specHeader
  rw [take1_headD s (by omega), List.drop_take (i := 5) (j := 7) (l := s), List.drop_take (i := 7) (j := 8) (l := s), List.drop_take (i := 8) (j := 9) (l := s),
    List.drop_take (i := 9) (j := 11) (l := s), List.drop_take (i := 11) (j := 12) (l := s), List.drop_take (i := 14) (j := 16) (l := s)]

/-- the header section `s[:m]` is a whole number of cipher blocks when the whole string and the key data are: what follows it is
`2·|kd| + 2·ml` characters -/
theorem section_aligned (s : PyStr) (m ml bs : Nat) (kd : Bytes) (hm : m ≤ s.length) (hL : s.length % bs = 0)
    (he : kd.length % bs = 0) (h2 : (2 * ml) % bs = 0) (hge : 2 * ml ≤ (s.drop m).length)
    (hkd : hexBytes? ((s.drop m).take ((s.drop m).length - 2 * ml)) = some kd) :
    s.length - (s.drop m).length = m ∧ (s.take m).length = m ∧ m % bs = 0 := by
  have hl := a2bHex_len _ _ hkd
  rw [List.length_take, Nat.min_eq_left (Nat.sub_le _ _)] at hl
  rw [List.length_drop] at hge hl ⊢
  have hs : m + (2 * kd.length + 2 * ml) = s.length := by omega
  have hd : bs ∣ 2 * kd.length + 2 * ml :=
    Nat.dvd_add (Nat.dvd_mul_left_of_dvd (Nat.dvd_of_mod_eq_zero he) 2) (Nat.dvd_of_mod_eq_zero h2)
  exact ⟨Nat.sub_sub_self hm, by rw [List.length_take, Nat.min_eq_left hm],
    Nat.mod_eq_zero_of_dvd ((Nat.dvd_add_left hd).mp (hs ▸ Nat.dvd_of_mod_eq_zero hL))⟩

/-- In the proof `P`, `f` are the guards and fields of `loadPure`, `T` the guards of `unwrapTail`, `D` the verification step
(`dispatch_iff`); the goal is the conjunction of `specUnwrap_some_iff`. -/
theorem psec_to_spec (c : Ciphers) (hc : c.Lawful) (kbpk : Bytes) (s : PyStr) (h : Header) (key : Bytes)
    (hcanon : ∀ cnt bl rest, dec? ((s.drop 12).take 2) = some cnt → parseBlocks cnt (s.drop 16) = some (bl, rest) → Canon bl rest)
    (hu : unwrapFn c kbpk s = .ok (h, key)) : Spec.TR31.unwrap c kbpk s = some (h, key) := by
  obtain ⟨m, hlp, htl⟩ := (unwrapFn_ok_iff c kbpk s h key).mp hu
  obtain ⟨P1, P2, P3, P4, lenb, hblk, hm, f1, f2, f3, f4, f5, f6, f7⟩ := (loadPure_ok_iff s m h).mp hlp
  obtain ⟨-, hmle, hprt, -, -⟩ := (Props.C15.loadPure_spec s).2 m h hlp
  have hv1 := take1_headD s (by omega)
  rw [specUnwrap_some_iff]
  generalize hv : s.headD 0 = v at hv1 ⊢
  rw [hv1] at P3
  have hvc := (versionOk_iff v).mp P3
  obtain ⟨hab, hmb, -, h2ml⟩ := algo_of v P3
  rw [f1, hv1] at htl
  obtain ⟨T1, T2, T3, mac, kd, hmac, hmacl, hkd, hdisp⟩ :=
    (unwrapTail_ok_iff c kbpk [v] s m key (bsOf v) (macLenOf v) hab hmb).mp htl
  obtain ⟨hkok, hel, hem⟩ := dispatch_ok_len c v kbpk _ kd mac key hdisp
  rw [List.drop_take (i := 12) (j := 14) (l := s)] at P4 hblk
  rw [List.drop_take (i := 1) (j := 5) (l := s)] at T1 T2
  have hdcnt := (dec?_iff _ (slice_ne_nil s 12 2 (by omega) (by omega)) _).mpr ⟨P4, rfl⟩
  have hdlen := (dec?_iff _ (slice_ne_nil s 1 4 (by omega) (by omega)) _).mpr ⟨T1, T2⟩
  obtain ⟨bl, rest, hp⟩ := parse_of_blocksLoad _ _ _ _ hblk
  have hcan := hcanon _ bl rest hdcnt hp
  obtain ⟨k, -, hrest, hl⟩ := blocksLoad_parsed _ _ bl rest hp hcan.pb hcan.ids
  rw [hblk] at hl
  injection hl with e1 e2
  injection e1 with e1
  subst e1
  rw [List.drop_drop, ← hm] at hrest
  subst hrest
  obtain ⟨hrge, hkd, hmac⟩ := (sections_iff _ (macLenOf v) (bsOf v) hcan.nows kd mac).mp ⟨hmac, hmacl, hkd, hel⟩
  obtain ⟨hsub, hhl, hhm⟩ := section_aligned s m (macLenOf v) (bsOf v) kd hmle T3 hem h2ml (Nat.le_trans (Nat.le_add_right _ _) hrge) hkd
  obtain ⟨D1, D2, D3, D4⟩ :=
    (dispatch_iff c hc v hvc kbpk hkok (s.take m) hprt (hhl.symm ▸ hhm) (by rw [hhl, hm]; exact Nat.le_add_right _ _) kd mac key hel hem hmacl).mp hdisp
  rw [← hsub] at D1 D2 D3 D4
  refine ⟨P2, P1, hvc, hkok, _, hdlen, hdcnt, T3, bl, _, hp, hrge, kd, mac, hkd, hmac, hem, D1, D2, D3, D4, ?_⟩
  rw [specHeader_eq s P2 bl, ← e2, ← f1, ← f2, ← f3, ← f4, ← f5, ← f6, ← f7]

/-- `S1` … `S17` are the conjuncts of `specUnwrap_some_iff`; they are fed to `loadPure_ok_iff` (`S1`–`S3`, `S6`, `S8`, `S17`),
`unwrapTail_ok_iff` (`S5`, `S7`, `S9`–`S11`) and `dispatch_iff` (`S4`, `S12`–`S16`). -/
theorem spec_to_psec (c : Ciphers) (hc : c.Lawful) (kbpk : Bytes) (s : PyStr) (h : Header) (key : Bytes)
    (hcanon : ∀ cnt bl rest, dec? ((s.drop 12).take 2) = some cnt → parseBlocks cnt (s.drop 16) = some (bl, rest) → Canon bl rest)
    (hs : Spec.TR31.unwrap c kbpk s = some (h, key)) : unwrapFn c kbpk s = .ok (h, key) := by
  rw [specUnwrap_some_iff] at hs
  have hv1 := take1_headD s (by omega)
  obtain ⟨S1, S2, S3, S4, cnt, S5, S6, S7, bl, rest, S8, S9, enc, t, S10, S11, S12, S13, S14, S15, S16, S17⟩ := hs
  rw [specHeader_eq s S1 bl] at S17
  generalize s.headD 0 = v at S3 S4 S5 S7 S9 S10 S11 S12 S13 S14 S15 S16 hv1
  have hvok := (versionOk_iff v).mpr S3
  obtain ⟨hab, hmb, -, h2ml⟩ := algo_of v hvok
  have hcan := hcanon cnt bl rest S6 S8
  obtain ⟨k, -, hrest, hl⟩ := blocksLoad_parsed _ _ bl rest S8 hcan.pb hcan.ids
  rw [List.drop_drop] at hrest
  obtain ⟨C1, C2⟩ := (dec?_iff _ (slice_ne_nil s 12 2 (by omega) (by omega)) _).mp S6
  obtain ⟨L1, L2⟩ := (dec?_iff _ (slice_ne_nil s 1 4 (by omega) (by omega)) _).mp S5
  rw [← List.drop_take (i := 12) (j := 14) (l := s)] at C1 C2
  rw [← List.drop_take (i := 1) (j := 5) (l := s)] at L1 L2
  have hlp : loadPure s = .ok (16 + k, h) := by
    refine (loadPure_ok_iff s (16 + k) h).mpr ⟨S2, S1, hv1 ▸ hvok, C1, k, ?_, rfl, ?_⟩
    · rw [C2, hl, S17]
    · rw [S17]; exact ⟨rfl, rfl, rfl, rfl, rfl, rfl, rfl⟩
  obtain ⟨-, hmle, hprt, -, -⟩ := (Props.C15.loadPure_spec s).2 (16 + k) h hlp
  refine (unwrapFn_ok_iff c kbpk s h key).mpr ⟨16 + k, hlp, ?_⟩
  have hH1 : h.versionId = [v] := by rw [S17]; exact hv1
  rw [hH1]
  subst hrest
  obtain ⟨hmac, htl, hkd, hel⟩ := (sections_iff _ (macLenOf v) (bsOf v) hcan.nows enc t).mpr ⟨S9, S10, S11⟩
  obtain ⟨hsub, hhl, hhm⟩ := section_aligned s (16 + k) (macLenOf v) (bsOf v) enc hmle S7 S12 h2ml (Nat.le_trans (Nat.le_add_right _ _) S9) S10
  rw [hsub] at S13 S14 S15 S16
  refine (unwrapTail_ok_iff c kbpk [v] s (16 + k) key (bsOf v) (macLenOf v) hab hmb).mpr ⟨L1, L2, S7, t, enc, hmac, htl, hkd, ?_⟩
  exact (dispatch_iff c hc v S3 kbpk S4 (s.take (16 + k)) hprt (hhl.symm ▸ hhm) (by rw [hhl]; exact Nat.le_add_right _ _) enc t key hel S12 htl).mpr
    ⟨S13, S14, S15, S16⟩

/-- C03, the refinement (`Props.C03.unwrap_eq_spec`). `hcanon` speaks of what the specification's own block parser reads off `s`, so
it is vacuous where that parser rejects. -/
theorem unwrap_eq_spec (c : Ciphers) (hc : c.Lawful) (kbpk : Bytes) (s : PyStr)
    (hcanon : ∀ cnt bl rest, dec? ((s.drop 12).take 2) = some cnt → parseBlocks cnt (s.drop 16) = some (bl, rest) → Canon bl rest) :
    (unwrapFn c kbpk s).toOption = Spec.TR31.unwrap c kbpk s := by
  cases hu : unwrapFn c kbpk s with
  | ok r =>
    obtain ⟨h, key⟩ := r
    rw [psec_to_spec c hc kbpk s h key hcanon hu]; rfl
  | error e =>
    cases hs : Spec.TR31.unwrap c kbpk s with
    | none => rfl
    | some r =>
      obtain ⟨h, key⟩ := r
      rw [spec_to_psec c hc kbpk s h key hcanon hs] at hu; cases hu

end Psec.Tr31
