import PsecModel.Py
/-! Lists: Python's slices with a non-negative bound (`l[:n]`, `l[-n:]`, `l[:-n]`) as `take` / `drop`, lists of length one, two or four,
the big-endian `int.to_bytes` / `int.from_bytes`, and the arithmetic of lengths that are multiples of a block size. -/
namespace Psec

theorem len1 {α} (l : List α) (h : l.length = 1) : ∃ a, l = [a] := List.length_eq_one_iff.mp h
theorem len2 {α} (l : List α) (h : l.length = 2) : ∃ a b, l = [a, b] := by
  match l, h with
  | [a, b], _ => exact ⟨a, b, rfl⟩
theorem len4 {α} (l : List α) (h : l.length = 4) : ∃ a b c d, l = [a, b, c, d] := by
  match l, h with
  | [a, b, c, d], _ => exact ⟨a, b, c, d, rfl⟩

theorem pyTake_nat {α} (l : List α) (n : Nat) : pyTake l (n : Int) = l.take n := by
  have : ¬ ((n : Int) < 0) := by omega
  simp [pyTake, pySlice, normIdx, this, List.take_eq_take_min]

theorem lastN_length {α} (l : List α) (n : Nat) (h : n ≤ l.length) : (lastN l n).length = n := by
  unfold lastN; rw [List.length_drop]; omega

theorem lastN_append {α} (a b : List α) (n : Nat) (h : n ≤ b.length) : lastN (a ++ b) n = lastN b n := by
  unfold lastN
  rw [List.length_append, Nat.add_sub_assoc h, List.drop_append, List.drop_of_length_le (Nat.le_add_right _ _),
    Nat.add_sub_cancel_left, List.nil_append]

theorem lastN_append_right {α} (a b : List α) (n : Nat) (h : b.length = n) : lastN (a ++ b) n = b := by
  subst h; rw [lastN_append _ _ _ (Nat.le_refl _), lastN, Nat.sub_self, List.drop_zero]
theorem dropLastN_append_right {α} (a b : List α) (n : Nat) (h : b.length = n) : dropLastN (a ++ b) n = a := by
  unfold dropLastN; rw [List.length_append, h, Nat.add_sub_cancel, List.take_left' rfl]

/-- Python's `s[-(k+1):-1]` as the model writes it (right side), against the specification's `dropLast` form -/
theorem slice_before_last {α} (l : List α) (k : Nat) (h : k + 1 ≤ l.length) :
    l.dropLast.drop (l.dropLast.length - k) = (l.drop (l.length - (k + 1))).take k := by
  rw [List.length_dropLast, List.dropLast_eq_take, List.drop_take, Nat.sub_sub_self (Nat.le_sub_one_of_lt h), Nat.sub_sub,
    Nat.add_comm 1 k]

theorem len_eq_div_mul (n bs : Nat) (h : n % bs = 0) : n = n / bs * bs :=
  (Nat.div_mul_cancel (Nat.dvd_of_mod_eq_zero h)).symm

theorem take1_headD (s : PyStr) (h : 1 ≤ s.length) : s.take 1 = [s.headD 0] := by
  cases s with
  | nil => simp at h
  | cons a r => rfl

theorem slice_ne_nil (s : PyStr) (a n : Nat) (h : a < s.length) (hn : 0 < n) : (s.drop a).take n ≠ [] := by
  rw [Ne, List.take_eq_nil_iff, List.drop_eq_nil_iff]; omega

theorem toBytesBEAux_acc (k n : Nat) (acc : Bytes) : toBytesBEAux k n acc = toBytesBEAux k n [] ++ acc := by
  induction k generalizing n acc with
  | zero => simp [toBytesBEAux]
  | succ k ih =>
    simp only [toBytesBEAux]
    rw [ih (n / 256) (UInt8.ofNat (n % 256) :: acc), ih (n / 256) [UInt8.ofNat (n % 256)]]
    simp

theorem toBytesBEAux_succ (k n : Nat) :
    toBytesBEAux (k + 1) n [] = toBytesBEAux k (n / 256) [] ++ [UInt8.ofNat (n % 256)] := by
  simp only [toBytesBEAux]; rw [toBytesBEAux_acc]

@[simp] theorem toBytesBEAux_length (k n : Nat) : (toBytesBEAux k n []).length = k := by
  induction k generalizing n with
  | zero => simp [toBytesBEAux]
  | succ k ih => rw [toBytesBEAux_succ]; simp [ih]

theorem fromBytesBE_append_one (l : Bytes) (x : UInt8) : fromBytesBE (l ++ [x]) = fromBytesBE l * 256 + x.toNat := by
  simp [fromBytesBE, List.foldl_append]

theorem fromBytesBE_toBytesBEAux (k n : Nat) : fromBytesBE (toBytesBEAux k n []) = n % 256 ^ k := by
  induction k generalizing n with
  | zero => simp [toBytesBEAux, fromBytesBE, Nat.mod_one]
  | succ k ih =>
    rw [toBytesBEAux_succ, fromBytesBE_append_one, ih, UInt8.toNat_ofNat', Nat.mod_mod, Nat.pow_succ', Nat.mod_mul,
      Nat.mul_comm, Nat.add_comm]

theorem toBytesBE_some (k n : Nat) (b : Bytes) (h : toBytesBE k n = some b) :
    n < 256 ^ k ∧ b = toBytesBEAux k n [] ∧ b.length = k ∧ fromBytesBE b = n := by
  unfold toBytesBE at h
  split at h
  · rename_i hlt
    injection h with h; subst h
    exact ⟨hlt, rfl, toBytesBEAux_length _ _, by rw [fromBytesBE_toBytesBEAux, Nat.mod_eq_of_lt hlt]⟩
  · cases h

theorem toBytesBE_of_lt (k n : Nat) (h : n < 256 ^ k) : toBytesBE k n = some (toBytesBEAux k n []) := by
  simp [toBytesBE, h]

theorem toBytesBE_none (k n : Nat) (h : ¬ n < 256 ^ k) : toBytesBE k n = none := by
  simp [toBytesBE, h]

/-- reading digits in base `b` from an accumulator `a` shifts `a` past them -/
theorem foldl_base {α} (b : Nat) (d : α → Nat) : ∀ (l : List α) (a : Nat),
    l.foldl (fun a c => a * b + d c) a = a * b ^ l.length + l.foldl (fun a c => a * b + d c) 0
  | [], a => by simp
  | c :: r, a => by
    rw [List.foldl_cons, List.foldl_cons, foldl_base b d r, foldl_base b d r (0 * b + d c), List.length_cons, Nat.pow_succ]
    simp only [Nat.zero_mul, Nat.zero_add, Nat.add_mul, Nat.mul_assoc, Nat.mul_comm b, Nat.add_assoc]

theorem fromBytesBE_cons (b : UInt8) (r : Bytes) : fromBytesBE (b :: r) = b.toNat * 256 ^ r.length + fromBytesBE r := by
  rw [fromBytesBE, List.foldl_cons, foldl_base]; simp [fromBytesBE]

theorem fromBytesBE_lt (l : Bytes) : fromBytesBE l < 256 ^ l.length := by
  induction l with
  | nil => simp [fromBytesBE]
  | cons b r ih =>
    rw [fromBytesBE_cons, List.length_cons, Nat.pow_succ]
    have : b.toNat * 256 ^ r.length ≤ 255 * 256 ^ r.length := Nat.mul_le_mul_right _ (by have := b.toNat_lt; omega)
    omega

theorem toBytesBEAux_head (m N : Nat) :
    toBytesBEAux (m + 1) N [] = UInt8.ofNat (N / 256 ^ m) :: toBytesBEAux m N [] := by
  induction m generalizing N with
  | zero => simpa [toBytesBEAux] using UInt8.ofNat_mod_size
  | succ m ih =>
    rw [toBytesBEAux_succ, ih, toBytesBEAux_succ m, Nat.div_div_eq_div_mul, Nat.pow_succ, Nat.mul_comm 256]
    rfl

theorem add_mod_zero {a b m : Nat} (ha : a % m = 0) (hb : b % m = 0) : (a + b) % m = 0 := by
  rw [Nat.add_mod, ha, hb]; simp

/-- psec's `bs - k % bs`: a whole `bs` when `k` is a multiple already -/
theorem pad_arith (bs k : Nat) (hbs : 0 < bs) : (k + (bs - k % bs)) % bs = 0 ∧ 0 < k + (bs - k % bs) := by
  have := Nat.mod_lt k hbs
  exact ⟨by rw [← Nat.mod_add_mod, Nat.add_sub_cancel' (Nat.le_of_lt this), Nat.mod_self], by omega⟩

end Psec
