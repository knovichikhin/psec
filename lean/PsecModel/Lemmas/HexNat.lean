import PsecModel.Model.Tr31
import PsecModel.Lemmas.Hex
import PsecModel.Lemmas.Bytes
import PsecModel.Spec.TR31
/-! Numbers written as a fixed number of hex digits: `natHex` (the grammar's length fields, of which `hex2U` and `hex4U`
are the two psec writes) read back by `parseHexNat`, and `hexField`, the check-then-convert both readers apply to a length field. -/
namespace Psec.Tr31
open Psec.Spec.TR31

theorem parseHexNat_append (a b : PyStr) : parseHexNat (a ++ b) = parseHexNat a * 16 ^ b.length + parseHexNat b := by
  unfold parseHexNat
  rw [List.foldl_append, foldl_base]

theorem parseHexNat_cons (c : Nat) (r : PyStr) : parseHexNat (c :: r) = (hexVal c).getD 0 * 16 ^ r.length + parseHexNat r := by
  have := parseHexNat_append [c] r
  simpa [parseHexNat] using this

theorem natHex_succ (d n : Nat) : natHex (d + 1) n = hexDigitU ((n / 16 ^ d) % 16) :: natHex d n := by
  unfold natHex
  rw [List.range_succ, List.reverse_append]
  rfl

@[simp] theorem natHex_length (d n : Nat) : (natHex d n).length = d := by simp [natHex]

theorem natHex_isHex (d n : Nat) : asciiHexchar (natHex d n) = true := by
  induction d with
  | zero => rfl
  | succ d ih =>
    rw [natHex_succ]
    simp only [asciiHexchar, List.all_cons, Bool.and_eq_true] at ih ⊢
    exact ⟨isHexC_hexDigitU _ (Nat.mod_lt _ (by decide)), ih⟩

theorem natHex_parse (d n : Nat) : parseHexNat (natHex d n) = n % 16 ^ d := by
  induction d with
  | zero => simp [natHex, parseHexNat, Nat.mod_one]
  | succ d ih =>
    rw [natHex_succ, parseHexNat_cons, ih, natHex_length, hexVal_hexDigitU _ (Nat.mod_lt _ (by decide)), Option.getD_some,
      Nat.mod_pow_succ]
    rw [Nat.mul_comm, Nat.add_comm]

theorem natHex_parse_lt (d n : Nat) (h : n < 16 ^ d) : parseHexNat (natHex d n) = n := by
  rw [natHex_parse, Nat.mod_eq_of_lt h]

theorem natHex2_eq (n : Nat) (h : n < 256) : natHex 2 n = hex2U n := by
  rw [natHex_succ, natHex_succ]
  simp only [natHex, hex2U, Nat.pow_zero, Nat.pow_one, Nat.div_one, List.range_zero, List.reverse_nil, List.map_nil]
  rw [Nat.mod_eq_of_lt (show n / 16 < 16 by omega)]

theorem natHex4_eq (n : Nat) (h : n < 65536) : natHex 4 n = hex4U n := by
  have e : natHex 4 n = [hexDigitU (n / 4096 % 16), hexDigitU (n / 256 % 16), hexDigitU (n / 16 % 16), hexDigitU (n / 1 % 16)] := rfl
  have h3 : n / 4096 % 16 = n / 256 / 16 := by
    rw [Nat.div_div_eq_div_mul]; exact Nat.mod_eq_of_lt (by omega)
  have h1 : n / 16 % 16 = n % 256 / 16 := (Nat.mod_mul_right_div_self n 16 16).symm
  have h0 : n / 1 % 16 = n % 256 % 16 := by rw [Nat.div_one, Nat.mod_mod_of_dvd n (by decide : 16 ∣ 256)]
  rw [e, h3, h1, h0]
  rfl

@[simp] theorem hex2U_length (k : Nat) : (hex2U k).length = 2 := rfl
@[simp] theorem hex4U_length (k : Nat) : (hex4U k).length = 4 := rfl

theorem hex2U_parse (k : Nat) (h : k < 256) : parseHexNat (hex2U k) = k := natHex2_eq k h ▸ natHex_parse_lt 2 k h
theorem hex2U_isHex (k : Nat) (h : k < 256) : asciiHexchar (hex2U k) = true := natHex2_eq k h ▸ natHex_isHex 2 k
theorem hex2U_printable (k : Nat) (h : k < 256) : asciiPrintable (hex2U k) = true := hexchar_printable (hex2U_isHex k h)
theorem hex4U_parse (k : Nat) (h : k < 65536) : parseHexNat (hex4U k) = k := natHex4_eq k h ▸ natHex_parse_lt 4 k h
theorem hex4U_isHex (k : Nat) (h : k < 65536) : asciiHexchar (hex4U k) = true := natHex4_eq k h ▸ natHex_isHex 4 k
theorem hex4U_printable (k : Nat) (h : k < 65536) : asciiPrintable (hex4U k) = true := hexchar_printable (hex4U_isHex k h)

/-- the value of `s` when it is exactly `n` hex digits (written as the guard of `Blocks.load`) -/
def hexField (n : Nat) (s : PyStr) : Option Nat :=
  if s.length ≠ n ∨ ¬ asciiHexchar s = true then none else some (parseHexNat s)

theorem hexField_some {n : Nat} {s : PyStr} {v : Nat} (h : hexField n s = some v) :
    s.length = n ∧ asciiHexchar s = true ∧ parseHexNat s = v := by
  unfold hexField at h
  split at h
  · cases h
  · rename_i g
    exact ⟨Decidable.not_not.mp fun e => g (.inl e), Decidable.not_not.mp fun e => g (.inr e), Option.some.inj h⟩

theorem hexField_natHex (d n : Nat) (h : n < 16 ^ d) : hexField d (natHex d n) = some n := by
  rw [hexField, if_neg (by simp [natHex_isHex]), natHex_parse_lt d n h]

theorem hexNat?_eq (n : Nat) (x : PyStr) (hn : n ≠ 0) (hx : x.length = n) : hexNat? x = hexField n x := by
  unfold hexNat? hexField asciiHexchar
  have hne : x ≠ [] := List.ne_nil_of_length_pos (by omega)
  by_cases h2 : x.all isHexC = true
  · rw [if_pos ⟨h2, hne⟩, if_neg (by simp [hx, h2])]
  · rw [if_neg (fun hh => h2 hh.1), if_pos (.inr h2)]

theorem hex2?_eq (x : PyStr) : hex2? x = hexField 2 x := by
  unfold hex2?
  split
  · exact hexNat?_eq 2 x (by decide) ‹_›
  · rw [hexField, if_pos (.inl ‹_›)]

theorem hexOfByte_spec (u : Bool) (x : UInt8) : ∃ a b, hexOfByte u x = [a, b] ∧ isHexC a = true ∧ isHexC b = true ∧
    hexVal a = some (x.toNat / 16) ∧ hexVal b = some (x.toNat % 16) := by
  have h1 : x.toNat / 16 < 16 := by have := x.toNat_lt; omega
  have h2 : x.toNat % 16 < 16 := Nat.mod_lt _ (by decide)
  cases u
  · exact ⟨_, _, rfl, isHexC_hexDigitL _ h1, isHexC_hexDigitL _ h2, hexVal_hexDigitL _ h1, hexVal_hexDigitL _ h2⟩
  · exact ⟨_, _, rfl, isHexC_hexDigitU _ h1, isHexC_hexDigitU _ h2, hexVal_hexDigitU _ h1, hexVal_hexDigitU _ h2⟩

theorem hexOfBytes_cons (u : Bool) (x : UInt8) (r : Bytes) : ∃ a b, hexOfBytes u (x :: r) = a :: b :: hexOfBytes u r ∧
    isHexC a = true ∧ isHexC b = true ∧ hexVal a = some (x.toNat / 16) ∧ hexVal b = some (x.toNat % 16) := by
  obtain ⟨a, b, e, h⟩ := hexOfByte_spec u x
  exact ⟨a, b, by rw [hexOfBytes, List.flatMap_cons, e]; rfl, h⟩

theorem fromHexWs_hexOfBytes (u : Bool) : ∀ b : Bytes, fromHexWs (hexOfBytes u b) = some b
  | [] => rfl
  | x :: r => by
    obtain ⟨a, b, e, ha, -, va, vb⟩ := hexOfBytes_cons u x r
    simp only [e, fromHexWs, isHexC_not_space a ha, va, vb, fromHexWs_hexOfBytes u r, Bool.false_eq_true, if_false,
      Option.map_some, mkByte, byte_of_nibbles]

theorem hexOfBytes_length (u : Bool) : ∀ b : Bytes, (hexOfBytes u b).length = 2 * b.length
  | [] => rfl
  | x :: r => by
    obtain ⟨a, b, e, -⟩ := hexOfBytes_cons u x r
    rw [e, List.length_cons, List.length_cons, hexOfBytes_length u r, List.length_cons]
    omega

theorem hexOfBytes_nows (u : Bool) : ∀ (b : Bytes), ∀ ch ∈ hexOfBytes u b, isSpaceC ch = false
  | [], ch, h => by simp [hexOfBytes] at h
  | x :: r, ch, h => by
    obtain ⟨a, b, e, ha, hb, -⟩ := hexOfBytes_cons u x r
    rw [e] at h
    rcases List.mem_cons.mp h with rfl | h
    · exact isHexC_not_space _ ha
    rcases List.mem_cons.mp h with rfl | h
    · exact isHexC_not_space _ hb
    · exact hexOfBytes_nows u r ch h

theorem toHexU_eq_hexOfBytes : ∀ b : Bytes, toHexU b = hexOfBytes true b
  | [] => rfl
  | x :: r => by
    rw [toHexU, toHexU_eq_hexOfBytes r]; rfl

theorem fromHexWs_toHexU (b : Bytes) : fromHexWs (toHexU b) = some b :=
  toHexU_eq_hexOfBytes b ▸ fromHexWs_hexOfBytes true b

end Psec.Tr31
