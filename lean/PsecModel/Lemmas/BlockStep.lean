import PsecModel.Lemmas.HexNat
import PsecModel.Lemmas.Bytes
/-! The loop of `Blocks.load`, one block at a time (`loadLoop_step`): `blockLen` reads the length fields of the block at the
head of the string, in the short form or, after the marker `00`, in the extended form (`extLen`, psec's `parse_extended_len`). -/
namespace Psec.Tr31

/-- what `Blocks.__setitem__` checks -/
structure BlockOK (id data : PyStr) : Prop where
  idlen : id.length = 2
  idan : asciiAlnum id = true
  dpr : asciiPrintable data = true

/-- what `Blocks.__setitem__` and the dict guarantee of the stored blocks -/
def DictWF (d : Dict) : Prop := (∀ p ∈ d, BlockOK p.1 p.2) ∧ (d.map Prod.fst).Nodup

def BlocksWF (d : Dict) : Prop := ∀ p ∈ d, BlockOK p.1 p.2 ∧ isPB p.1 = false

theorem dictSet_spec (d : Dict) (k v : PyStr) :
    (∀ p ∈ dictSet d k v, p ∈ d ∨ p = (k, v)) ∧
    (dictSet d k v).map Prod.fst = if k ∈ d.map Prod.fst then d.map Prod.fst else d.map Prod.fst ++ [k] := by
  induction d with
  | nil => simp [dictSet]
  | cons q r ih =>
    obtain ⟨k', v'⟩ := q
    simp only [dictSet]
    by_cases e : k' = k
    · subst e
      rw [if_pos rfl]
      refine ⟨fun p hp => ?_, by simp⟩
      rcases List.mem_cons.mp hp with rfl | hp
      · exact .inr rfl
      · exact .inl (List.mem_cons_of_mem _ hp)
    · rw [if_neg e]
      have e' : ¬ k = k' := fun h => e h.symm
      refine ⟨fun p hp => ?_, ?_⟩
      · rcases List.mem_cons.mp hp with rfl | hp
        · exact .inl (List.mem_cons_self ..)
        · exact (ih.1 p hp).imp_left (List.mem_cons_of_mem _)
      · simp only [List.map_cons, ih.2, List.mem_cons, e', false_or]
        split <;> rfl

theorem dictSet_wf (d : Dict) (k v : PyStr) (hd : DictWF d) (hb : BlockOK k v) : DictWF (dictSet d k v) := by
  obtain ⟨hm, hk⟩ := dictSet_spec d k v
  refine ⟨fun p hp => (hm p hp).elim (hd.1 p) (fun e => e ▸ hb), ?_⟩
  rw [hk]
  split
  · exact hd.2
  · rename_i hn
    exact List.nodup_append.mpr ⟨hd.2, by simp, fun a ha b hb' => by
      rw [List.mem_singleton.mp hb']; exact fun e => hn (e ▸ ha)⟩

theorem dictSet_fresh (acc : Dict) (k v : PyStr) (h : k ∉ acc.map Prod.fst) : dictSet acc k v = acc ++ [(k, v)] := by
  induction acc with
  | nil => rfl
  | cons p r ih =>
    obtain ⟨k', v'⟩ := p
    simp only [List.map_cons, List.mem_cons, not_or] at h
    simp only [dictSet, List.cons_append]
    rw [if_neg (fun e => h.1 e.symm), ih h.2]

/-- the extended length form at `r` (after the id and the `00` marker): the characters it takes and the total it announces -/
def extLen (r : PyStr) : Option (Nat × Nat) :=
  (hexField 2 (r.take 2)).bind fun ll =>
  if ll = 0 then none else
  (hexField (2 * ll) ((r.drop 2).take (2 * ll))).bind fun total => some (2 + 2 * ll, total)

/-- where the data of the block at the head of `rest` starts and how long it is; `none` when a length field is malformed or
announces less than id and length fields take -/
def blockLen (rest : PyStr) : Option (Nat × Nat) :=
  (hexField 2 ((rest.drop 2).take 2)).bind fun l =>
  (if l = 0 then extLen (rest.drop 4) else some (0, l)).bind fun p =>
  if p.2 < 4 + p.1 then none else some (4 + p.1, p.2 - 4 - p.1)

theorem parseExtLen_eq (r : PyStr) (i : Nat) : parseExtLen r i =
    match extLen r with
    | none => .error .header
    | some (k, total) => .ok ((total : Int) - 4 - k, r.drop k, i + k) := by
  unfold parseExtLen extLen hexField
  simp only [Nat.mul_comm _ 2]
  split; · rfl
  simp only [Option.bind_some]
  by_cases h2 : parseHexNat (r.take 2) = 0
  · rw [if_pos (by omega), if_pos h2]
  rw [if_neg (by omega), if_neg h2]
  split; · rfl
  simp only [Option.bind_some, List.drop_drop, Nat.add_assoc]
  congr 2; omega

theorem upperC_alnum (a u : Nat) (h : upperC a = u) (hu : 65 ≤ u ∧ u ≤ 90) : isAlnumC a = true := by
  unfold upperC at h
  simp only [isAlnumC, isDigitC, isUpperC, isLowerC, Bool.or_eq_true, Bool.and_eq_true, decide_eq_true_eq]
  split at h <;> omega

theorem isPB_alnum (id : PyStr) (h : isPB id = true) : asciiAlnum id = true ∧ id.length = 2 := by
  have h : id.map upperC = [80, 66] := by simpa [isPB, upper] using h
  obtain ⟨a, b, rfl⟩ := len2 id (by simpa using congrArg List.length h)
  simp only [List.map_cons, List.map_nil, List.cons.injEq, and_true] at h
  simp [asciiAlnum, upperC_alnum a 80 h.1 (by decide), upperC_alnum b 66 h.2 (by decide)]

/-- The pad-block branch checks what `Blocks.__setitem__` checks (its id is alphanumeric anyway, its data since the repair F2 of DESIGN section 6), so the
branches differ only in whether the block is stored. -/
theorem loadLoop_store (n : Nat) (id data rest' : PyStr) (i' : Nat) (d : Dict) (hid : id.length = 2) :
    (if isPB id then (if ¬ asciiPrintable data then (.error .header, d) else loadLoop n rest' i' d)
     else match blocksSet d id data with
       | .error e => (.error e, d)
       | .ok d' => loadLoop n rest' i' d') =
    if ¬ asciiAlnum id ∨ ¬ asciiPrintable data then (.error .header, d)
    else loadLoop n rest' i' (if isPB id then d else dictSet d id data) := by
  by_cases hpb : isPB id = true
  · simp [hpb, (isPB_alnum id hpb).1]
  · by_cases hal : asciiAlnum id = true <;> by_cases hpr : asciiPrintable data = true <;> simp [hpb, blocksSet, hid, hal, hpr]

theorem loadLoop_step (n : Nat) (rest : PyStr) (i : Nat) (d : Dict) :
    loadLoop (n + 1) rest i d =
      if (rest.take 2).length ≠ 2 then (.error .header, d) else
      match blockLen rest with
      | none => (.error .header, d)
      | some (o, dl) =>
        if ((rest.drop o).take dl).length ≠ dl then (.error .header, d) else
        if ¬ asciiAlnum (rest.take 2) ∨ ¬ asciiPrintable ((rest.drop o).take dl) then (.error .header, d)
        else loadLoop n (rest.drop (o + dl)) (i + o + dl)
          (if isPB (rest.take 2) then d else dictSet d (rest.take 2) ((rest.drop o).take dl)) := by
  rw [loadLoop]
  by_cases hid : (rest.take 2).length ≠ 2
  · rw [if_pos hid, if_pos hid]
  rw [if_neg hid, if_neg hid, blockLen, hexField]
  by_cases hf : ((rest.drop 2).take 2).length ≠ 2 ∨ ¬ asciiHexchar ((rest.drop 2).take 2) = true
  · rw [if_pos hf, if_pos hf]; rfl
  rw [if_neg hf, if_neg hf, Option.bind_some]
  simp only [List.drop_drop, Nat.reduceAdd, Nat.add_assoc]
  generalize parseHexNat ((rest.drop 2).take 2) = l
  have hlen : (if l = 0 then parseExtLen (rest.drop 4) (i + 4) else .ok ((l : Int) - 4, rest.drop 4, i + 4)) =
      match (if l = 0 then extLen (rest.drop 4) else some (0, l)) with
      | none => .error .header
      | some (k, total) => .ok ((total : Int) - 4 - k, (rest.drop 4).drop k, i + 4 + k) := by
    split
    · exact parseExtLen_eq _ _
    · simp
  rw [hlen]
  cases (if l = 0 then extLen (rest.drop 4) else some (0, l)) with
  | none => rfl
  | some p =>
    simp only [Option.bind_some]
    -- the loader holds the data length as a Python integer that may be negative
    by_cases hlt : p.2 < 4 + p.1
    · rw [if_pos (by omega), if_pos hlt]
    rw [if_neg (by omega), if_neg hlt, show ((p.2 : Int) - 4 - p.1).toNat = p.2 - 4 - p.1 by omega]
    simp only [List.drop_drop, Nat.add_assoc]
    by_cases hdl : ((rest.drop (4 + p.1)).take (p.2 - 4 - p.1)).length ≠ p.2 - 4 - p.1
    · rw [if_pos hdl, if_pos hdl]
    rw [if_neg hdl, if_neg hdl]
    exact loadLoop_store n _ _ _ _ d (Decidable.not_not.mp hid)

theorem extLen_spec (r : PyStr) (k total : Nat) (h : extLen r = some (k, total)) :
    2 ≤ k ∧ k ≤ r.length ∧ asciiHexchar (r.take k) = true := by
  unfold extLen at h
  obtain ⟨ll, h1, h⟩ := Option.bind_eq_some_iff.mp h
  split at h; · cases h
  obtain ⟨t, h2, h⟩ := Option.bind_eq_some_iff.mp h
  cases h
  obtain ⟨l1, x1, -⟩ := hexField_some h1
  obtain ⟨l2, x2, -⟩ := hexField_some h2
  rw [List.length_take] at l1
  rw [List.length_take, List.length_drop] at l2
  refine ⟨by omega, by omega, ?_⟩
  rw [List.take_add, asciiHexchar_append, x1, x2]; rfl

theorem blockLen_spec (rest : PyStr) (o dl : Nat) (h : blockLen rest = some (o, dl)) :
    4 ≤ o ∧ o ≤ rest.length ∧ asciiHexchar ((rest.drop 2).take (o - 2)) = true := by
  unfold blockLen at h
  obtain ⟨l, h1, h⟩ := Option.bind_eq_some_iff.mp h
  obtain ⟨p, h2, h⟩ := Option.bind_eq_some_iff.mp h
  split at h <;> cases h
  obtain ⟨l1, x1, -⟩ := hexField_some h1
  rw [List.length_take, List.length_drop] at l1
  split at h2
  · obtain ⟨k2, kl, kx⟩ := extLen_spec _ p.1 p.2 h2
    rw [List.length_drop] at kl
    refine ⟨by omega, by omega, ?_⟩
    rw [show 4 + p.1 - 2 = 2 + p.1 by omega, List.take_add, asciiHexchar_append, x1, List.drop_drop, kx]; rfl
  · cases h2
    exact ⟨Nat.le_refl _, by omega, x1⟩

end Psec.Tr31
