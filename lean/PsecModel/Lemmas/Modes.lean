import PsecModel.Model.Des
import PsecModel.Lemmas.Cbc
/-! The eight ECB / CBC wrappers of `psec.des` / `psec.aes` are one guard chain around a mode of `Cipher/Iface.lean`. `wrapper_guards`
turns the chain into one condition, so each wrapper has one equation `f … = if Dom then .ok (mode …) else .error .value`, and the
inverses come from a pair of modes (`wrapped_inv`). The names are those of property C19 (`Props/C19.lean` holds the rest of it),
which is why the namespace is its. -/
namespace Psec.Props.C19

/-- the data a wrapper accepts (`len(data) < bs or len(data) % bs != 0` raises) -/
def DataOk (bs : Nat) (data : Bytes) : Prop := 0 < data.length ∧ data.length % bs = 0

instance (bs : Nat) (data : Bytes) : Decidable (DataOk bs data) := by unfold DataOk; infer_instance

theorem wrapper_guards {α} (bs : Nat) (hbs : 0 < bs) (data : Bytes) (k : Bool) (x : R α) :
    (if data.length < bs ∨ data.length % bs ≠ 0 then .error .value else if ¬ k = true then .error .value else x) =
      if DataOk bs data ∧ k = true then x else .error .value := by
  have hd : DataOk bs data ↔ ¬ (data.length < bs ∨ data.length % bs ≠ 0) := by
    refine ⟨fun ⟨h0, hm⟩ h => h.elim (fun h => ?_) (· hm), fun h => ⟨by omega, by omega⟩⟩
    rw [Nat.mod_eq_of_lt h] at hm; omega
  by_cases h : data.length < bs ∨ data.length % bs ≠ 0
  · rw [if_pos h, if_neg fun h' => hd.mp h'.1 h]
  · cases k <;> simp [h, hd]

theorem wrapper_guards_iv {α} (bs : Nat) (hbs : 0 < bs) (data iv : Bytes) (k : Bool) (v : α) :
    (if data.length < bs ∨ data.length % bs ≠ 0 then .error .value else if ¬ k = true then .error .value
      else if iv.length ≠ bs then .error .value else .ok v : R α) =
      if DataOk bs data ∧ k = true ∧ iv.length = bs then .ok v else .error .value := by
  rw [wrapper_guards bs hbs]
  by_cases h1 : DataOk bs data ∧ k = true <;> by_cases h2 : iv.length = bs <;> simp [h1, h2]

theorem tdes_ecb_enc_eq (c : Ciphers) (key data : Bytes) : Des.encryptTdesEcb c key data =
    if DataOk 8 data ∧ tdesKeyOk key = true then .ok (ecbUpdate (c.tdesE key) 8 (data.length / 8) data) else .error .value :=
  wrapper_guards 8 (by decide) data _ _
theorem tdes_ecb_dec_eq (c : Ciphers) (key data : Bytes) : Des.decryptTdesEcb c key data =
    if DataOk 8 data ∧ tdesKeyOk key = true then .ok (ecbUpdate (c.tdesD key) 8 (data.length / 8) data) else .error .value :=
  wrapper_guards 8 (by decide) data _ _
theorem tdes_cbc_enc_eq (c : Ciphers) (key iv data : Bytes) : Des.encryptTdesCbc c key iv data =
    if DataOk 8 data ∧ tdesKeyOk key = true ∧ iv.length = 8 then
      .ok (cbcEncUpdate (c.tdesE key) 8 (data.length / 8) iv data).1 else .error .value :=
  wrapper_guards_iv 8 (by decide) data iv _ _
theorem tdes_cbc_dec_eq (c : Ciphers) (key iv data : Bytes) : Des.decryptTdesCbc c key iv data =
    if DataOk 8 data ∧ tdesKeyOk key = true ∧ iv.length = 8 then
      .ok (cbcDecUpdate (c.tdesD key) 8 (data.length / 8) iv data).1 else .error .value :=
  wrapper_guards_iv 8 (by decide) data iv _ _
theorem aes_ecb_enc_eq (c : Ciphers) (key data : Bytes) : Aes.encryptAesEcb c key data =
    if DataOk 16 data ∧ aesKeyOk key = true then .ok (ecbUpdate (c.aesE key) 16 (data.length / 16) data) else .error .value :=
  wrapper_guards 16 (by decide) data _ _
theorem aes_ecb_dec_eq (c : Ciphers) (key data : Bytes) : Aes.decryptAesEcb c key data =
    if DataOk 16 data ∧ aesKeyOk key = true then .ok (ecbUpdate (c.aesD key) 16 (data.length / 16) data) else .error .value :=
  wrapper_guards 16 (by decide) data _ _
theorem aes_cbc_enc_eq (c : Ciphers) (key iv data : Bytes) : Aes.encryptAesCbc c key iv data =
    if DataOk 16 data ∧ aesKeyOk key = true ∧ iv.length = 16 then
      .ok (cbcEncUpdate (c.aesE key) 16 (data.length / 16) iv data).1 else .error .value :=
  wrapper_guards_iv 16 (by decide) data iv _ _
theorem aes_cbc_dec_eq (c : Ciphers) (key iv data : Bytes) : Aes.decryptAesCbc c key iv data =
    if DataOk 16 data ∧ aesKeyOk key = true ∧ iv.length = 16 then
      .ok (cbcDecUpdate (c.aesD key) 16 (data.length / 16) iv data).1 else .error .value :=
  wrapper_guards_iv 16 (by decide) data iv _ _

/-- `P` is the wrappers' common condition on key and IV; what else they check depends on the data only through its length,
which `F` preserves. -/
theorem wrapped_inv {bs : Nat} {F G : Nat → Bytes → Bytes} {enc dec : Bytes → R Bytes} {P : Prop} [Decidable P] (hP : P)
    (hlen : ∀ n d, d.length = n * bs → (F n d).length = d.length)
    (hinv : ∀ n d, d.length = n * bs → G n (F n d) = d)
    (henc : ∀ d, enc d = if DataOk bs d ∧ P then .ok (F (d.length / bs) d) else .error .value)
    (hdec : ∀ d, dec d = if DataOk bs d ∧ P then .ok (G (d.length / bs) d) else .error .value)
    {data : Bytes} (hd : DataOk bs data) :
    ∃ ct, enc data = .ok ct ∧ ct.length = data.length ∧ dec ct = .ok data := by
  have hl := len_eq_div_mul _ _ hd.2
  have hct := hlen _ data hl
  refine ⟨_, (henc data).trans (if_pos ⟨hd, hP⟩), hct, ?_⟩
  rw [hdec, if_pos ⟨by rwa [DataOk, hct], hP⟩, hct, hinv _ data hl]

theorem tdes_ecb_enc_ok (c : Ciphers) (key data : Bytes) (hk : tdesKeyOk key = true) (hd : DataOk 8 data) :
    Des.encryptTdesEcb c key data = .ok (ecbUpdate (c.tdesE key) 8 (data.length / 8) data) :=
  (tdes_ecb_enc_eq c key data).trans (if_pos ⟨hd, hk⟩)
theorem tdes_ecb_dec_ok (c : Ciphers) (key data : Bytes) (hk : tdesKeyOk key = true) (hd : DataOk 8 data) :
    Des.decryptTdesEcb c key data = .ok (ecbUpdate (c.tdesD key) 8 (data.length / 8) data) :=
  (tdes_ecb_dec_eq c key data).trans (if_pos ⟨hd, hk⟩)
theorem tdes_cbc_enc_ok (c : Ciphers) (key iv data : Bytes) (hk : tdesKeyOk key = true) (hiv : iv.length = 8) (hd : DataOk 8 data) :
    Des.encryptTdesCbc c key iv data = .ok (cbcEncUpdate (c.tdesE key) 8 (data.length / 8) iv data).1 :=
  (tdes_cbc_enc_eq c key iv data).trans (if_pos ⟨hd, hk, hiv⟩)
theorem tdes_cbc_dec_ok (c : Ciphers) (key iv data : Bytes) (hk : tdesKeyOk key = true) (hiv : iv.length = 8) (hd : DataOk 8 data) :
    Des.decryptTdesCbc c key iv data = .ok (cbcDecUpdate (c.tdesD key) 8 (data.length / 8) iv data).1 :=
  (tdes_cbc_dec_eq c key iv data).trans (if_pos ⟨hd, hk, hiv⟩)
theorem tdes_ecb_dec_enc (c : Ciphers) (hc : c.Lawful) (key data : Bytes) (hk : tdesKeyOk key = true) (hd : DataOk 8 data) :
    ∃ ct, Des.encryptTdesEcb c key data = .ok ct ∧ ct.length = data.length ∧ Des.decryptTdesEcb c key ct = .ok data :=
  wrapped_inv hk (fun n d => ecbUpdate_length _ 8 n d (hc.tdes_ed key hk).enc_len) (fun n d => ecb_inv _ _ 8 n d (hc.tdes_ed key hk))
    (tdes_ecb_enc_eq c key) (tdes_ecb_dec_eq c key) hd

theorem tdes_ecb_enc_dec (c : Ciphers) (hc : c.Lawful) (key data : Bytes) (hk : tdesKeyOk key = true) (hd : DataOk 8 data) :
    ∃ pt, Des.decryptTdesEcb c key data = .ok pt ∧ pt.length = data.length ∧ Des.encryptTdesEcb c key pt = .ok data :=
  wrapped_inv hk (fun n d => ecbUpdate_length _ 8 n d (hc.tdes_de key hk).enc_len) (fun n d => ecb_inv _ _ 8 n d (hc.tdes_de key hk))
    (tdes_ecb_dec_eq c key) (tdes_ecb_enc_eq c key) hd

theorem tdes_cbc_dec_enc (c : Ciphers) (hc : c.Lawful) (key iv data : Bytes) (hk : tdesKeyOk key = true)
    (hiv : iv.length = 8) (hd : DataOk 8 data) :
    ∃ ct, Des.encryptTdesCbc c key iv data = .ok ct ∧ ct.length = data.length ∧ Des.decryptTdesCbc c key iv ct = .ok data :=
  wrapped_inv (G := fun n d => (cbcDecUpdate (c.tdesD key) 8 n iv d).1) ⟨hk, hiv⟩
    (fun n d => cbcEnc_length _ 8 n iv d (hc.tdes_ed key hk).enc_len) (fun n d => cbc_dec_enc _ _ 8 n iv d (hc.tdes_ed key hk))
    (tdes_cbc_enc_eq c key iv) (tdes_cbc_dec_eq c key iv) hd

theorem tdes_cbc_enc_dec (c : Ciphers) (hc : c.Lawful) (key iv data : Bytes) (hk : tdesKeyOk key = true)
    (hiv : iv.length = 8) (hd : DataOk 8 data) :
    ∃ pt, Des.decryptTdesCbc c key iv data = .ok pt ∧ pt.length = data.length ∧ Des.encryptTdesCbc c key iv pt = .ok data :=
  wrapped_inv (G := fun n d => (cbcEncUpdate (c.tdesE key) 8 n iv d).1) ⟨hk, hiv⟩
    (fun n d => cbcDec_length _ 8 n iv d (hc.tdes_de key hk).enc_len) (fun n d => cbc_enc_dec _ _ 8 n iv d (hc.tdes_de key hk))
    (tdes_cbc_dec_eq c key iv) (tdes_cbc_enc_eq c key iv) hd

theorem aes_ecb_enc_ok (c : Ciphers) (key data : Bytes) (hk : aesKeyOk key = true) (hd : DataOk 16 data) :
    Aes.encryptAesEcb c key data = .ok (ecbUpdate (c.aesE key) 16 (data.length / 16) data) :=
  (aes_ecb_enc_eq c key data).trans (if_pos ⟨hd, hk⟩)
theorem aes_ecb_dec_ok (c : Ciphers) (key data : Bytes) (hk : aesKeyOk key = true) (hd : DataOk 16 data) :
    Aes.decryptAesEcb c key data = .ok (ecbUpdate (c.aesD key) 16 (data.length / 16) data) :=
  (aes_ecb_dec_eq c key data).trans (if_pos ⟨hd, hk⟩)
theorem aes_cbc_enc_ok (c : Ciphers) (key iv data : Bytes) (hk : aesKeyOk key = true) (hiv : iv.length = 16) (hd : DataOk 16 data) :
    Aes.encryptAesCbc c key iv data = .ok (cbcEncUpdate (c.aesE key) 16 (data.length / 16) iv data).1 :=
  (aes_cbc_enc_eq c key iv data).trans (if_pos ⟨hd, hk, hiv⟩)
theorem aes_cbc_dec_ok (c : Ciphers) (key iv data : Bytes) (hk : aesKeyOk key = true) (hiv : iv.length = 16) (hd : DataOk 16 data) :
    Aes.decryptAesCbc c key iv data = .ok (cbcDecUpdate (c.aesD key) 16 (data.length / 16) iv data).1 :=
  (aes_cbc_dec_eq c key iv data).trans (if_pos ⟨hd, hk, hiv⟩)

theorem aes_ecb_dec_enc (c : Ciphers) (hc : c.Lawful) (key data : Bytes) (hk : aesKeyOk key = true) (hd : DataOk 16 data) :
    ∃ ct, Aes.encryptAesEcb c key data = .ok ct ∧ ct.length = data.length ∧ Aes.decryptAesEcb c key ct = .ok data :=
  wrapped_inv hk (fun n d => ecbUpdate_length _ 16 n d (hc.aes_ed key hk).enc_len) (fun n d => ecb_inv _ _ 16 n d (hc.aes_ed key hk))
    (aes_ecb_enc_eq c key) (aes_ecb_dec_eq c key) hd

theorem aes_ecb_enc_dec (c : Ciphers) (hc : c.Lawful) (key data : Bytes) (hk : aesKeyOk key = true) (hd : DataOk 16 data) :
    ∃ pt, Aes.decryptAesEcb c key data = .ok pt ∧ pt.length = data.length ∧ Aes.encryptAesEcb c key pt = .ok data :=
  wrapped_inv hk (fun n d => ecbUpdate_length _ 16 n d (hc.aes_de key hk).enc_len) (fun n d => ecb_inv _ _ 16 n d (hc.aes_de key hk))
    (aes_ecb_dec_eq c key) (aes_ecb_enc_eq c key) hd

theorem aes_cbc_dec_enc (c : Ciphers) (hc : c.Lawful) (key iv data : Bytes) (hk : aesKeyOk key = true)
    (hiv : iv.length = 16) (hd : DataOk 16 data) :
    ∃ ct, Aes.encryptAesCbc c key iv data = .ok ct ∧ ct.length = data.length ∧ Aes.decryptAesCbc c key iv ct = .ok data :=
  wrapped_inv (G := fun n d => (cbcDecUpdate (c.aesD key) 16 n iv d).1) ⟨hk, hiv⟩
    (fun n d => cbcEnc_length _ 16 n iv d (hc.aes_ed key hk).enc_len) (fun n d => cbc_dec_enc _ _ 16 n iv d (hc.aes_ed key hk))
    (aes_cbc_enc_eq c key iv) (aes_cbc_dec_eq c key iv) hd

theorem aes_cbc_enc_dec (c : Ciphers) (hc : c.Lawful) (key iv data : Bytes) (hk : aesKeyOk key = true)
    (hiv : iv.length = 16) (hd : DataOk 16 data) :
    ∃ pt, Aes.decryptAesCbc c key iv data = .ok pt ∧ pt.length = data.length ∧ Aes.encryptAesCbc c key iv pt = .ok data :=
  wrapped_inv (G := fun n d => (cbcEncUpdate (c.aesE key) 16 n iv d).1) ⟨hk, hiv⟩
    (fun n d => cbcDec_length _ 16 n iv d (hc.aes_de key hk).enc_len) (fun n d => cbc_enc_dec _ _ 16 n iv d (hc.aes_de key hk))
    (aes_cbc_dec_eq c key iv) (aes_cbc_enc_eq c key iv) hd

theorem tdes_ecb_enc_block (c : Ciphers) (key b : Bytes) (hk : tdesKeyOk key = true) (hb : b.length = 8) :
    Des.encryptTdesEcb c key b = .ok (c.tdesE key b) := by
  rw [tdes_ecb_enc_eq, if_pos ⟨⟨by omega, by omega⟩, hk⟩, hb, ecbUpdate_one _ hb]
theorem tdes_ecb_dec_block (c : Ciphers) (key b : Bytes) (hk : tdesKeyOk key = true) (hb : b.length = 8) :
    Des.decryptTdesEcb c key b = .ok (c.tdesD key b) := by
  rw [tdes_ecb_dec_eq, if_pos ⟨⟨by omega, by omega⟩, hk⟩, hb, ecbUpdate_one _ hb]
theorem aes_ecb_enc_block (c : Ciphers) (key b : Bytes) (hk : aesKeyOk key = true) (hb : b.length = 16) :
    Aes.encryptAesEcb c key b = .ok (c.aesE key b) := by
  rw [aes_ecb_enc_eq, if_pos ⟨⟨by omega, by omega⟩, hk⟩, hb, ecbUpdate_one _ hb]
theorem aes_ecb_dec_block (c : Ciphers) (key b : Bytes) (hk : aesKeyOk key = true) (hb : b.length = 16) :
    Aes.decryptAesEcb c key b = .ok (c.aesD key b) := by
  rw [aes_ecb_dec_eq, if_pos ⟨⟨by omega, by omega⟩, hk⟩, hb, ecbUpdate_one _ hb]

/-- C19: `des.generate_kcv` returns the leftmost `n` bytes of the encryption of a zero block. -/
theorem kcv_spec (c : Ciphers) (key : Bytes) (n : Nat) :
    Des.generateKcv c key n =
      if tdesKeyOk key then .ok ((c.tdesE key (List.replicate 8 0)).take n) else .error .value := by
  rw [Des.generateKcv, ite_not, pyTake_nat]

end Psec.Props.C19
