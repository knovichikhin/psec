import PsecModel.Cipher.Iface
import PsecModel.Lemmas.Xor
import PsecModel.Lemmas.Bytes
import PsecModel.Spec.ISO9797
/-! The library model of `Cipher/Iface.lean`: the key-size checks as length conditions, the block-cipher laws packaged per direction
(`BlockInv`), ECB and CBC `update()` on whole blocks (lengths, inverses, block-by-block forms), and CBC chaining as the ISO 9797-1
recurrence `Spec.chain` over `Spec.blocksOf`. -/
namespace Psec

theorem tdesKeyOk_iff (k : Bytes) : tdesKeyOk k = true ↔ (k.length = 8 ∨ k.length = 16 ∨ k.length = 24) := by
  simp [tdesKeyOk, Bool.or_eq_true, or_assoc]
theorem aesKeyOk_iff (k : Bytes) : aesKeyOk k = true ↔ (k.length = 16 ∨ k.length = 24 ∨ k.length = 32) := by
  simp [aesKeyOk, Bool.or_eq_true, or_assoc]

structure BlockInv (E D : Bytes → Bytes) (bs : Nat) : Prop where
  dec_enc : ∀ b, b.length = bs → D (E b) = b
  enc_len : ∀ b, b.length = bs → (E b).length = bs

theorem Ciphers.Lawful.tdes_ed {c : Ciphers} (h : c.Lawful) (k : Bytes) (hk : tdesKeyOk k = true) :
    BlockInv (c.tdesE k) (c.tdesD k) 8 := ⟨fun b hb => h.tdes_dec_enc k b hk hb, fun b hb => h.tdes_enc_len k b hk hb⟩
theorem Ciphers.Lawful.tdes_de {c : Ciphers} (h : c.Lawful) (k : Bytes) (hk : tdesKeyOk k = true) :
    BlockInv (c.tdesD k) (c.tdesE k) 8 := ⟨fun b hb => h.tdes_enc_dec k b hk hb, fun b hb => h.tdes_dec_len k b hk hb⟩
theorem Ciphers.Lawful.aes_ed {c : Ciphers} (h : c.Lawful) (k : Bytes) (hk : aesKeyOk k = true) :
    BlockInv (c.aesE k) (c.aesD k) 16 := ⟨fun b hb => h.aes_dec_enc k b hk hb, fun b hb => h.aes_enc_len k b hk hb⟩
theorem Ciphers.Lawful.aes_de {c : Ciphers} (h : c.Lawful) (k : Bytes) (hk : aesKeyOk k = true) :
    BlockInv (c.aesD k) (c.aesE k) 16 := ⟨fun b hb => h.aes_enc_dec k b hk hb, fun b hb => h.aes_dec_len k b hk hb⟩

theorem take_len_of_mul {α} (data : List α) (n bs : Nat) (hd : data.length = (n + 1) * bs) :
    (data.take bs).length = bs ∧ (data.drop bs).length = n * bs := by
  rw [Nat.succ_mul] at hd
  constructor
  · rw [List.length_take]; omega
  · rw [List.length_drop]; omega

theorem exists_blocks {len bs : Nat} (h0 : 0 < len) (hm : len % bs = 0) : ∃ n, len / bs = n + 1 ∧ len = (n + 1) * bs := by
  have h := Nat.div_mul_cancel (Nat.dvd_of_mod_eq_zero hm)
  cases hq : len / bs with
  | zero => rw [hq] at h; omega
  | succ n => exact ⟨n, rfl, by rw [← hq, h]⟩

theorem ecbUpdate_one (f : Bytes → Bytes) {bs : Nat} {b : Bytes} (hb : b.length = bs) : ecbUpdate f bs 1 b = f b := by
  simp [ecbUpdate, List.take_of_length_le (Nat.le_of_eq hb)]

theorem cbcEnc_one (E : Bytes → Bytes) {bs : Nat} (cv : Bytes) {b : Bytes} (hb : b.length = bs) :
    cbcEncUpdate E bs 1 cv b = (E (xorBytes b cv), E (xorBytes b cv)) := by
  simp [cbcEncUpdate, List.take_of_length_le (Nat.le_of_eq hb)]

theorem cbcDec_one (D : Bytes → Bytes) {bs : Nat} (cv : Bytes) {b : Bytes} (hb : b.length = bs) :
    cbcDecUpdate D bs 1 cv b = (xorBytes (D b) cv, b) := by
  simp [cbcDecUpdate, List.take_of_length_le (Nat.le_of_eq hb)]

theorem ecbUpdate_length (f : Bytes → Bytes) (bs n : Nat) (data : Bytes)
    (hf : ∀ b, b.length = bs → (f b).length = bs) (hd : data.length = n * bs) :
    (ecbUpdate f bs n data).length = data.length := by
  induction n generalizing data with
  | zero => simp at hd; simp [ecbUpdate, hd]
  | succ n ih =>
    obtain ⟨h1, h2⟩ := take_len_of_mul data n bs hd
    simp only [ecbUpdate, List.length_append, hf _ h1, ih _ h2, h2, hd, Nat.succ_mul]; omega

theorem ecb_inv (E D : Bytes → Bytes) (bs n : Nat) (data : Bytes) (h : BlockInv E D bs)
    (hd : data.length = n * bs) : ecbUpdate D bs n (ecbUpdate E bs n data) = data := by
  induction n generalizing data with
  | zero => simp at hd; simp [ecbUpdate, hd]
  | succ n ih =>
    obtain ⟨h1, h2⟩ := take_len_of_mul data n bs hd
    have hc := h.enc_len _ h1
    simp only [ecbUpdate]
    rw [List.take_left' hc, List.drop_left' hc, h.dec_enc _ h1, ih _ h2, List.take_append_drop]

theorem ecb_blockwise (f : Bytes → Bytes) (bs n : Nat) (b rest : Bytes) (hb : b.length = bs) :
    ecbUpdate f bs (n + 1) (b ++ rest) = f b ++ ecbUpdate f bs n rest := by
  simp only [ecbUpdate, List.take_left' hb, List.drop_left' hb]

theorem cbcEnc_length (E : Bytes → Bytes) (bs n : Nat) (iv data : Bytes)
    (hE : ∀ b, b.length = bs → (E b).length = bs) (hd : data.length = n * bs) :
    (cbcEncUpdate E bs n iv data).1.length = data.length := by
  induction n generalizing iv data with
  | zero => simp at hd; simp [cbcEncUpdate, hd]
  | succ n ih =>
    obtain ⟨h1, h2⟩ := take_len_of_mul data n bs hd
    have hx : (xorBytes (data.take bs) iv).length = bs := by rw [xorBytes_length, h1]
    simp only [cbcEncUpdate, List.length_append, hE _ hx, ih _ _ h2, h2, hd, Nat.succ_mul]; omega

theorem cbcDec_length (D : Bytes → Bytes) (bs n : Nat) (iv data : Bytes)
    (hD : ∀ b, b.length = bs → (D b).length = bs) (hd : data.length = n * bs) :
    (cbcDecUpdate D bs n iv data).1.length = data.length := by
  induction n generalizing iv data with
  | zero => simp at hd; simp [cbcDecUpdate, hd]
  | succ n ih =>
    obtain ⟨h1, h2⟩ := take_len_of_mul data n bs hd
    simp only [cbcDecUpdate, List.length_append, xorBytes_length, hD _ h1, ih _ _ h2, h2, hd, Nat.succ_mul]; omega

theorem cbc_dec_enc (E D : Bytes → Bytes) (bs n : Nat) (iv data : Bytes) (h : BlockInv E D bs)
    (hd : data.length = n * bs) :
    (cbcDecUpdate D bs n iv (cbcEncUpdate E bs n iv data).1).1 = data := by
  induction n generalizing iv data with
  | zero => simp at hd; simp [cbcDecUpdate, hd]
  | succ n ih =>
    obtain ⟨h1, h2⟩ := take_len_of_mul data n bs hd
    have hx : (xorBytes (data.take bs) iv).length = bs := by rw [xorBytes_length, h1]
    have hc := h.enc_len _ hx
    simp only [cbcEncUpdate, cbcDecUpdate]
    rw [List.take_left' hc, List.drop_left' hc, h.dec_enc _ hx, xorBytes_cancel, ih _ _ h2, List.take_append_drop]

theorem cbc_enc_dec (E D : Bytes → Bytes) (bs n : Nat) (iv data : Bytes) (h : BlockInv D E bs)
    (hd : data.length = n * bs) :
    (cbcEncUpdate E bs n iv (cbcDecUpdate D bs n iv data).1).1 = data := by
  induction n generalizing iv data with
  | zero => simp at hd; simp [cbcEncUpdate, hd]
  | succ n ih =>
    obtain ⟨h1, h2⟩ := take_len_of_mul data n bs hd
    have hdl := h.enc_len _ h1
    have hx : (xorBytes (D (data.take bs)) iv).length = bs := by rw [xorBytes_length, hdl]
    simp only [cbcEncUpdate, cbcDecUpdate]
    rw [List.take_left' hx, List.drop_left' hx, xorBytes_cancel, h.dec_enc _ h1, ih _ _ h2, List.take_append_drop]

theorem cbc_textbook (E : Bytes → Bytes) (bs n : Nat) (iv p rest : Bytes) (hp : p.length = bs) :
    (cbcEncUpdate E bs (n + 1) iv (p ++ rest)).1 =
      E (xorBytes p iv) ++ (cbcEncUpdate E bs n (E (xorBytes p iv)) rest).1 := by
  simp only [cbcEncUpdate, List.take_left' hp, List.drop_left' hp]

theorem blocksOf_succ (bs f : Nat) (data : Bytes) (n : Nat) (hbs : 0 < bs) (hd : data.length = (n + 1) * bs) :
    Spec.blocksOf bs (f + 1) data = data.take bs :: Spec.blocksOf bs f (data.drop bs) := by
  have : data ≠ [] := List.ne_nil_of_length_pos (by rw [hd, Nat.succ_mul]; omega)
  simp [Spec.blocksOf, this]

theorem cbcEnc_chain (E : Bytes → Bytes) (bs n fuel : Nat) (cv data : Bytes) (hbs : 0 < bs)
    (hd : data.length = n * bs) (hf : n ≤ fuel) :
    (cbcEncUpdate E bs n cv data).2 = Spec.chain E cv (Spec.blocksOf bs fuel data) := by
  induction n generalizing cv data fuel with
  | zero =>
    simp at hd; subst hd
    cases fuel <;> simp [cbcEncUpdate, Spec.blocksOf, Spec.chain]
  | succ n ih =>
    obtain ⟨h1, h2⟩ := take_len_of_mul data n bs hd
    cases fuel with
    | zero => omega
    | succ fuel =>
      rw [blocksOf_succ bs fuel data n hbs hd]
      simp only [cbcEncUpdate, Spec.chain]
      exact ih _ _ _ h2 (by omega)

theorem cbcEnc_last (E : Bytes → Bytes) (bs n : Nat) (cv data : Bytes)
    (hE : ∀ b, b.length = bs → (E b).length = bs) (hd : data.length = (n + 1) * bs) :
    lastN (cbcEncUpdate E bs (n + 1) cv data).1 bs = (cbcEncUpdate E bs (n + 1) cv data).2 := by
  induction n generalizing cv data with
  | zero =>
    have hc := hE (xorBytes (data.take bs) cv) (by rw [xorBytes_length, (take_len_of_mul data 0 bs hd).1])
    simp [cbcEncUpdate, lastN, hc]
  | succ n ih =>
    have h2 := (take_len_of_mul data (n + 1) bs hd).2
    have hrest := cbcEnc_length E bs (n + 1) (E (xorBytes (data.take bs) cv)) (data.drop bs) hE h2
    rw [cbcEncUpdate, lastN_append _ _ _ (by rw [hrest, h2, Nat.succ_mul]; omega)]
    exact ih _ _ h2

/-- one value three ways: the last block CBC `update()` returns, the chaining value it leaves behind, ISO 9797-1's final `H` -/
theorem cbcEnc_last_chain (E : Bytes → Bytes) (bs : Nat) (cv data : Bytes) (hbs : 0 < bs)
    (hE : ∀ b, b.length = bs → (E b).length = bs) (h0 : 0 < data.length) (hm : data.length % bs = 0) :
    lastN (cbcEncUpdate E bs (data.length / bs) cv data).1 bs = Spec.chain E cv (Spec.blocksOf bs data.length data) ∧
    (cbcEncUpdate E bs (data.length / bs) cv data).2 = Spec.chain E cv (Spec.blocksOf bs data.length data) ∧
    (Spec.chain E cv (Spec.blocksOf bs data.length data)).length = bs := by
  obtain ⟨n, hn, hl⟩ := exists_blocks h0 hm
  have hch := cbcEnc_chain E bs (n + 1) data.length cv data hbs hl (by rw [hl]; exact Nat.le_mul_of_pos_right _ hbs)
  have hlast := cbcEnc_last E bs n cv data hE hl
  rw [hn, ← hch, ← hlast]
  refine ⟨rfl, rfl, lastN_length _ _ ?_⟩
  rw [cbcEnc_length E bs _ cv data hE hl, hl, Nat.succ_mul]
  omega

theorem chain_append (E : Bytes → Bytes) (h : Bytes) (l1 l2 : List Bytes) :
    Spec.chain E h (l1 ++ l2) = Spec.chain E (Spec.chain E h l1) l2 := by
  induction l1 generalizing h with
  | nil => rfl
  | cons d ds ih => exact ih _

theorem blocksOf_nil (bs f : Nat) : Spec.blocksOf bs f [] = [] := by cases f <;> simp [Spec.blocksOf]

theorem blocksOf_append (bs : Nat) (hbs : 0 < bs) (n f : Nat) (a b : Bytes) (ha : a.length = n * bs) (hf : n ≤ f) :
    Spec.blocksOf bs f (a ++ b) = Spec.blocksOf bs n a ++ Spec.blocksOf bs (f - n) b := by
  induction n generalizing a f with
  | zero =>
    have : a = [] := List.eq_nil_of_length_eq_zero (by simpa using ha)
    simp [this, Spec.blocksOf]
  | succ n ih =>
    obtain ⟨h1, h2⟩ := take_len_of_mul a n bs ha
    obtain ⟨f, rfl⟩ : ∃ f', f = f' + 1 := ⟨f - 1, by omega⟩
    have hle : bs ≤ a.length := by rw [ha, Nat.succ_mul]; omega
    have hne : a ≠ [] := List.ne_nil_of_length_pos (by omega)
    simp only [Spec.blocksOf, hne, List.append_eq_nil_iff, false_and, if_false, List.take_append_of_le_length hle,
      List.drop_append_of_le_length hle, ih f _ h2 (by omega), Nat.add_sub_add_right, List.cons_append]

theorem blocksOf_fuel (bs : Nat) (hbs : 0 < bs) (n f : Nat) (a : Bytes) (ha : a.length = n * bs) (hf : n ≤ f) :
    Spec.blocksOf bs f a = Spec.blocksOf bs n a := by
  have h := blocksOf_append bs hbs n f a [] ha hf
  rwa [List.append_nil, blocksOf_nil, List.append_nil] at h

theorem blocksOf_one (bs : Nat) (hbs : 0 < bs) (f : Nat) (hf : 0 < f) (b : Bytes) (hb : b.length = bs) :
    Spec.blocksOf bs f b = [b] := by
  obtain ⟨f, rfl⟩ : ∃ f', f = f' + 1 := ⟨f - 1, by omega⟩
  have hne : b ≠ [] := List.ne_nil_of_length_pos (by omega)
  simp [Spec.blocksOf, hne, List.take_of_length_le (Nat.le_of_eq hb), List.drop_of_length_le (Nat.le_of_eq hb), blocksOf_nil]

/-- Both splits take as fuel the length of the string that is split, as `Spec.mac1` and `Spec.cmac` do. -/
theorem chain_blocksOf_snoc (E : Bytes → Bytes) (h : Bytes) (bs : Nat) (hbs : 0 < bs) (n : Nat) (body x : Bytes)
    (hb : body.length = n * bs) (hx : x.length = bs) :
    Spec.chain E h (Spec.blocksOf bs (body ++ x).length (body ++ x)) =
      E (xorBytes x (Spec.chain E h (Spec.blocksOf bs body.length body))) := by
  have hn : n ≤ body.length := by rw [hb]; exact Nat.le_mul_of_pos_right _ hbs
  rw [blocksOf_append bs hbs n _ body x hb (by rw [List.length_append]; omega), blocksOf_fuel bs hbs n _ body hb hn,
    blocksOf_one bs hbs _ (by rw [List.length_append]; omega) x hx, chain_append]
  rfl

end Psec
