import PsecModel.Lemmas.BlockStep
import PsecModel.Lemmas.Result
/-! What `blockLen`, hence each reader, sees in a block written in any length form the grammar allows (`encodeBlock_read`);
`Blocks.dump` writes two of the forms (`dumpOne_encode`), and the pad block is one more block in the short form. -/
namespace Psec.Tr31
open Psec.Spec.TR31

/-- a length form (`form` as in `encodeBlock`) in whose field the total of `data` fits -/
def FormOK (data : PyStr) (form : Nat) : Prop :=
  (form = 0 ∧ data.length + 4 ≤ 255) ∨ (1 ≤ form ∧ form ≤ 255 ∧ data.length + 6 + 2 * form < 16 ^ (2 * form))

/-- a missing form means the short form, as in `encodeBlocks` -/
def FormsOK : Dict → List Nat → Prop
  | [], _ => True
  | (_, data) :: r, f :: fs => FormOK data f ∧ FormsOK r fs
  | (_, data) :: r, [] => FormOK data 0 ∧ FormsOK r []

theorem extLen_enc (form N : Nat) (tail : PyStr) (h1 : 1 ≤ form) (h2 : form ≤ 255) (hN : N < 16 ^ (2 * form)) :
    extLen (natHex 2 form ++ (natHex (2 * form) N ++ tail)) = some (2 + 2 * form, N) := by
  rw [extLen, List.take_left' (natHex_length 2 form), hexField_natHex 2 form (by omega), Option.bind_some, if_neg (by omega),
    List.drop_left' (natHex_length 2 form), List.take_left' (natHex_length _ N), hexField_natHex _ N hN, Option.bind_some]

theorem blockLen_enc (id data tail : PyStr) (form : Nat) (hid : id.length = 2) (hf : FormOK data form) :
    blockLen (encodeBlock id data form ++ tail) = some (if form = 0 then 4 else 6 + 2 * form, data.length) := by
  obtain ⟨i0, i1, rfl⟩ := len2 id hid
  rcases hf with ⟨rfl, hs⟩ | ⟨hk1, hk2, hfit⟩
  · have e : encodeBlock [i0, i1] data 0 ++ tail = i0 :: i1 :: (natHex 2 (data.length + 4) ++ (data ++ tail)) := by
      simp [encodeBlock]
    rw [e, blockLen]
    simp only [List.drop_succ_cons, List.drop_zero]
    rw [List.take_left' (natHex_length 2 _), hexField_natHex 2 _ (by omega), Option.bind_some, if_neg (by omega), Option.bind_some,
      if_neg (by simp)]
    simp
  · have e : encodeBlock [i0, i1] data form ++ tail =
        i0 :: i1 :: 48 :: 48 :: (natHex 2 form ++ (natHex (2 * form) (data.length + 6 + 2 * form) ++ (data ++ tail))) := by
      simp [encodeBlock, show form ≠ 0 by omega]
    rw [e, blockLen]
    simp only [List.drop_succ_cons, List.drop_zero, List.take_succ_cons, List.take_zero]
    rw [show hexField 2 [48, 48] = some 0 by decide, Option.bind_some, if_pos rfl, extLen_enc form _ _ hk1 hk2 hfit, Option.bind_some,
      if_neg (by simp; omega), if_neg (by omega)]
    simp
    omega

/-- This and `blockLen_enc` are the only places where the readers' agreement with the builder depends on the length forms:
whoever adds a form to `encodeBlock` extends `FormOK`, `blockLen` and these two. -/
theorem encodeBlock_read (id data tail : PyStr) (form : Nat) (hid : id.length = 2) (hf : FormOK data form) :
    ∃ o, o + data.length = (encodeBlock id data form).length ∧
      (encodeBlock id data form ++ tail).take 2 = id ∧
      blockLen (encodeBlock id data form ++ tail) = some (o, data.length) ∧
      ((encodeBlock id data form ++ tail).drop o).take data.length = data ∧
      (encodeBlock id data form ++ tail).drop (o + data.length) = tail := by
  obtain ⟨P, hsp, hPl, hP2⟩ : ∃ P, encodeBlock id data form = P ++ data ∧
      P.length = (if form = 0 then 4 else 6 + 2 * form) ∧ ∀ t, (P ++ t).take 2 = id := by
    unfold encodeBlock
    split
    · exact ⟨_, rfl, by simp [hid], fun t => by rw [List.append_assoc, List.take_left' hid]⟩
    · exact ⟨_, rfl, by simp [hid]; omega, fun t => by
        rw [List.append_assoc, List.append_assoc, List.append_assoc, List.take_left' hid]⟩
  refine ⟨P.length, by rw [hsp, List.length_append], ?_, ?_, ?_, ?_⟩
  · rw [hsp, List.append_assoc]; exact hP2 _
  · rw [hPl]; exact blockLen_enc id data tail form hid hf
  · rw [hsp, List.append_assoc, List.drop_left' rfl, List.take_left' rfl]
  · rw [hsp, List.append_assoc, ← List.drop_drop, List.drop_left' rfl, List.drop_left' rfl]

theorem loadLoop_enc (id data tail : PyStr) (form n i : Nat) (acc : Dict) (h : BlockOK id data) (hf : FormOK data form) :
    loadLoop (n + 1) (encodeBlock id data form ++ tail) i acc =
      if isPB id then loadLoop n tail (i + (encodeBlock id data form).length) acc
      else loadLoop n tail (i + (encodeBlock id data form).length) (dictSet acc id data) := by
  obtain ⟨o, hlen, htk, hbl, hdt, hdd⟩ := encodeBlock_read id data tail form h.idlen hf
  rw [loadLoop_step, hbl]
  simp only [htk, hdt, hdd, h.idlen, h.idan, h.dpr, ne_eq, not_true_eq_false, or_self, if_false]
  rw [← hlen, ← Nat.add_assoc]
  split <;> rfl

theorem encodeBlocks_cons (id data : PyStr) (r : Dict) (forms : List Nat) :
    encodeBlocks ((id, data) :: r) forms = encodeBlock id data (forms.headD 0) ++ encodeBlocks r forms.tail := by
  cases forms <;> rfl

theorem FormsOK_cons (id data : PyStr) (r : Dict) (forms : List Nat) :
    FormsOK ((id, data) :: r) forms ↔ FormOK data (forms.headD 0) ∧ FormsOK r forms.tail := by
  cases forms <;> exact Iff.rfl

theorem dumpOne_encode (id data t : PyStr) (hd : dumpOne id data = .ok t) : ∃ f, FormOK data f ∧ t = encodeBlock id data f := by
  unfold dumpOne at hd
  split at hd
  · rename_i hs
    injection hd with hd
    refine ⟨0, Or.inl ⟨rfl, hs⟩, ?_⟩
    rw [← hd, encodeBlock, if_pos rfl, natHex2_eq _ (by omega)]
  · split at hd
    · rename_i hl
      injection hd with hd
      refine ⟨2, Or.inr ⟨by decide, by decide, by omega⟩, ?_⟩
      have e2 : natHex 2 2 = [48, 50] := rfl
      rw [← hd, encodeBlock, if_neg (by decide), natHex4_eq _ (by omega), e2]
      simp
    · cases hd

theorem dumpAll_cons (id data : PyStr) (r : Dict) :
    dumpAll ((id, data) :: r) = dumpOne id data >>= fun a => dumpAll r >>= fun b => .ok (a ++ b) := by
  rw [dumpAll]
  cases dumpOne id data with
  | error e => rfl
  | ok a => cases dumpAll r <;> rfl

theorem dumpAll_encode : ∀ (d : Dict) (body : PyStr), dumpAll d = .ok body → ∃ forms, FormsOK d forms ∧ body = encodeBlocks d forms
  | [], body, hd => ⟨[], trivial, by cases hd; rfl⟩
  | (id, data) :: r, body, hd => by
    rw [dumpAll_cons] at hd
    obtain ⟨a, h1, hd⟩ := bind_eq_ok.mp hd
    obtain ⟨b, h2, hd⟩ := bind_eq_ok.mp hd
    cases hd
    obtain ⟨f, hf, rfl⟩ := dumpOne_encode id data a h1
    obtain ⟨fs, hfs, rfl⟩ := dumpAll_encode r b h2
    exact ⟨f :: fs, ⟨hf, hfs⟩, rfl⟩

theorem isPB_PB : isPB [80, 66] = true := by decide
theorem zerosS_printable (p : Nat) : asciiPrintable (zerosS p) = true := by
  simp [zerosS, asciiPrintable, List.all_replicate, isPrintC]

theorem padBlock_encode (p : Nat) (hp : 4 + p ≤ 255) :
    [80, 66] ++ natHex 2 (4 + p) ++ List.replicate p 48 = encodeBlock [80, 66] (List.replicate p 48) 0 ∧
    BlockOK [80, 66] (List.replicate p 48) ∧ FormOK (List.replicate p 48) 0 := by
  refine ⟨?_, ⟨rfl, by decide, zerosS_printable p⟩, Or.inl ⟨rfl, by simp; omega⟩⟩
  rw [encodeBlock, if_pos rfl, List.length_replicate, Nat.add_comm]

theorem encodeBlock_printable (id data : PyStr) (f : Nat) (hb : BlockOK id data) : asciiPrintable (encodeBlock id data f) = true := by
  unfold encodeBlock
  have h1 := alnum_printable hb.idan
  have h2 := hb.dpr
  split
  · simp only [asciiPrintable_append, h1, h2, hexchar_printable (natHex_isHex _ _), Bool.and_self]
  · have h00 : asciiPrintable [48, 48] = true := by decide
    simp only [asciiPrintable_append, h1, h2, h00, hexchar_printable (natHex_isHex _ _), Bool.and_self]

theorem encodeBlocks_printable : ∀ (d : Dict) (forms : List Nat), (∀ p ∈ d, BlockOK p.1 p.2) →
    asciiPrintable (encodeBlocks d forms) = true
  | [], _, _ => rfl
  | (id, data) :: r, forms, hb => by
    rw [encodeBlocks_cons, asciiPrintable_append, encodeBlock_printable id data _ (hb (id, data) (by simp)),
      encodeBlocks_printable r _ (fun p hp => hb p (by simp [hp]))]
    rfl

end Psec.Tr31
