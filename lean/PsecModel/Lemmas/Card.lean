import PsecModel.Model.Card
import PsecModel.Lemmas.Hex
/-! What `cvv.py` and `pin.py` share: the two-pass decimalisation against the standard's, and the digit arithmetic `str(a+b)[-1:]`. -/
namespace Psec
open Psec.Spec Psec.Card

theorem isAFlower_hexDigitL (n : Nat) (h : n < 16) : isAFlower (hexDigitL n) = decide (10 ≤ n) := by
  unfold isAFlower hexDigitL
  rw [Bool.eq_iff_iff]
  split <;> simp only [Bool.and_eq_true, decide_eq_true_eq] <;> omega

/-- `- 49` is the model's form of the code's `translate({97: 48, …, 102: 53})` -/
theorem hexDigitL_sub49 (n : Nat) (h : 10 ≤ n) : hexDigitL n - 49 = n - 10 + 48 := by
  rw [hexDigitL, if_neg (by omega)]
  omega

/-- the code's two passes (take from `A`; if short, continue in `B`) are the standard's one `take` of `A ++ B` -/
theorem take_two_pass {α} (A B : List α) (n : Nat) :
    (if (A.take n).length < n then A.take n ++ B.take (n - (A.take n).length) else A.take n) = (A ++ B).take n := by
  rw [List.take_append, List.length_take]
  split
  · rw [Nat.min_eq_right (by omega)]
  · rw [Nat.sub_eq_zero_of_le (by omega), List.take_zero, List.append_nil]

theorem decimalize_eq_spec (b : Bytes) (n : Nat) :
    decimalize (toHexL b) n = digitChars (decimalise (bytesToNibs b) n) := by
  have hlt := bytesToNibs_lt b
  rw [toHexL_eq]
  generalize bytesToNibs b = nibs at hlt
  have h1 : (nibs.map hexDigitL).filter isDecC = digitChars (nibs.filter (· < 10)) := by
    rw [List.filter_map, List.filter_congr (p := isDecC ∘ hexDigitL) (q := (· < 10)) fun x _ => isDigitC_hexDigitL x]
    exact List.map_congr_left fun x hx => hexDigitL_of_lt10 x (by simpa using (List.mem_filter.mp hx).2)
  have h2 : ((nibs.map hexDigitL).filter isAFlower).map (· - 49) =
      digitChars ((nibs.filter (fun x => decide (10 ≤ x))).map (· - 10)) := by
    rw [List.filter_map, List.filter_congr (p := isAFlower ∘ hexDigitL) (q := fun x => decide (10 ≤ x)) fun x hx => isAFlower_hexDigitL x (hlt x hx),
      digitChars, List.map_map, List.map_map]
    exact List.map_congr_left fun x hx => hexDigitL_sub49 x (by simpa using (List.mem_filter.mp hx).2)
  simp only [decimalize, decimalise, List.map_take, h1, h2]
  rw [take_two_pass]
  simp only [digitChars, List.map_take, List.map_append]

theorem filter_partition_length (nibs : Nibs) :
    (nibs.filter (· < 10)).length + (nibs.filter (fun x => decide (10 ≤ x))).length = nibs.length := by
  rw [List.length_eq_countP_add_countP (· < 10) (l := nibs), List.countP_eq_length_filter, List.countP_eq_length_filter]
  simp only [decide_eq_true_eq, Nat.not_lt]

theorem decimalise_digits (out : Bytes) (n : Nat) (hl : n ≤ 2 * out.length) :
    (digitChars (decimalise (bytesToNibs out) n)).length = n ∧
    asciiNumeric (digitChars (decimalise (bytesToNibs out) n)) = true := by
  refine ⟨?_, digitChars_numeric _ fun x hx => ?_⟩
  · have := filter_partition_length (bytesToNibs out)
    rw [bytesToNibs_length] at this
    simp only [digitChars, decimalise, List.length_map, List.length_take, List.length_append]
    omega
  · have hx' := List.mem_of_mem_take hx
    simp only [List.mem_append, List.mem_map, List.mem_filter] at hx'
    rcases hx' with ⟨_, h⟩ | ⟨y, ⟨hy, _⟩, rfl⟩
    · simpa using h
    · have := bytesToNibs_lt out y hy; omega

theorem addDigit_spec (a b : Nat) :
    addDigit a b = [48 + ((a - 48) + (b - 48)) % 10] :=
  natToDec_last _

theorem subDigit_spec (p n : Nat) :
    subDigit p n = [48 + (10 + (p - 48) - (n - 48)) % 10] :=
  natToDec_last _

end Psec
