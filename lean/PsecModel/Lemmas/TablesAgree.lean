import PsecModel.Lemmas.Tables.Ascii
import PsecModel.Lemmas.Tables.Version
import PsecModel.Lemmas.Tables.Dispatch
import PsecModel.Lemmas.Tables.Card
import PsecModel.Lemmas.Tables.CardCvv
import PsecModel.Lemmas.Tables.CardPvv
import PsecModel.Lemmas.Tables.CardIbm
/-!
# The model's tables are the tables in the source

`Generated/Tables.lean` is regenerated from the Python source on every run (`harness/tables.py`, purely syntactic). Each theorem of
`Lemmas/Tables/*` states that a function of the hand-written model agrees with a regenerated table on every key, not only on the
listed ones, so an entry changed, added or removed in the source leaves an obligation that no longer checks; the order of the
entries does not matter. One module per group of tables, so that a table that stops agreeing takes down only the theorems about
it. A generated table is an `Option`: `none` means the translator did not recognise the table's shape in the source; the theorem
about it is then vacuous and the run records the tie as unavailable.
-/
namespace Psec.Tables
open Psec.Generated.Tables

/-- how many of the fourteen tables the translator recognised in the source of this run; nothing is proved about it -/
def tiedCount : Nat :=
  [tools_ascii_n.isSome, tools_ascii_an.isSome, tools_ascii_pa.isSome, tools_ascii_h.isSome,
   header_mac_len.isSome, header_block_size.isSome, keyblock_mac_len.isSome, keyblock_block_size.isSome,
   keyblock_algo_max_key_len.isSome, wrap_dispatch.isSome, unwrap_dispatch.isSome,
   cvv_translate.isSome, pvv_translate.isSome, ibm_maketrans_from.isSome].count true

end Psec.Tables
