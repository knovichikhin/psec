import PsecModel.Cipher.Iface
/-! The transformations of an AES round are undone by their inverses and keep the length. The S-boxes are mutually inverse by a sweep
over the two tables; for MixColumns no table is consulted: `xtime` is XOR-linear, every `mulN` is a polynomial in `xtime`, and the
two coefficient matrices are inverse to each other already as polynomials over GF(2), before any reduction. -/
namespace Psec.AES

/-- A byte table as one number, entry `i` in bits `8i … 8i+7`: the kernel shifts and masks a numeral in one step, whereas each
lookup in a 256-entry list costs it a walk down the list. -/
def pack : List UInt8 → Nat
  | [] => 0
  | b :: t => pack t * 256 + b.toNat

def look (t : Array UInt8) (i : Nat) : Nat := pack t.toList >>> (8 * i) % 256

theorem pack_shift : ∀ (t : List UInt8) (i : Nat), pack t >>> (8 * i) % 256 = (t.getD i 0).toNat
  | [], i => by simp [pack]
  | b :: t, 0 => by simp [pack, Nat.mul_add_mod_self_right, Nat.mod_eq_of_lt b.toNat_lt]
  | b :: t, i + 1 => by
    have h : (pack t * 256 + b.toNat) >>> 8 = pack t := by
      rw [Nat.shiftRight_eq_div_pow]; have := b.toNat_lt; omega
    rw [show 8 * (i + 1) = 8 + 8 * i by omega, Nat.shiftRight_add, pack, h, pack_shift t i]; rfl

theorem getD_eq_look (t : Array UInt8) (i : Nat) : t.getD i 0 = UInt8.ofNat (look t i) := by
  rw [look, pack_shift]; simp

theorem sbox_sweep :
    (List.range 256).all (fun i => look isboxT (look sboxT i) == i && look sboxT (look isboxT i) == i) = true := by
  decide +kernel

theorem sbox_eq_look : sbox = fun b => UInt8.ofNat (look sboxT b.toNat) := funext fun b => getD_eq_look sboxT b.toNat

theorem look_sbox (b : UInt8) :
    look isboxT (look sboxT b.toNat) = b.toNat ∧ look sboxT (look isboxT b.toNat) = b.toNat := by
  simpa using List.all_eq_true.mp sbox_sweep b.toNat (List.mem_range.mpr b.toNat_lt)

theorem isbox_sbox (b : UInt8) : isbox (sbox b) = b := by
  have hl : look sboxT b.toNat < 256 := Nat.mod_lt _ (by decide)
  rw [isbox, sbox, getD_eq_look, getD_eq_look, UInt8.toNat_ofNat_of_lt' hl, (look_sbox b).1, UInt8.ofNat_toNat]
theorem sbox_isbox (b : UInt8) : sbox (isbox b) = b := by
  have hl : look isboxT b.toNat < 256 := Nat.mod_lt _ (by decide)
  rw [isbox, sbox, getD_eq_look, getD_eq_look, UInt8.toNat_ofNat_of_lt' hl, (look_sbox b).2, UInt8.ofNat_toNat]

theorem hi_msb (a : UInt8) : (a &&& 0x80 = 0) = (a.toBitVec.msb = false) := by
  have h : ∀ n : Fin 256, ((UInt8.ofNat n.val) &&& 0x80 = 0) = ((UInt8.ofNat n.val).toBitVec.msb = false) := by
    decide +kernel
  simpa using h ⟨a.toNat, a.toNat_lt⟩

theorem xtime_xor (a b : UInt8) : xtime (a ^^^ b) = xtime a ^^^ xtime b := by
  have key : ((a ^^^ b) &&& 0x80 = 0) ↔ ((a &&& 0x80 = 0) ↔ (b &&& 0x80 = 0)) := by
    rw [hi_msb, hi_msb a, hi_msb b, UInt8.toBitVec_xor, BitVec.msb_xor]
    cases a.toBitVec.msb <;> cases b.toBitVec.msb <;> simp
  unfold xtime
  rw [UInt8.shiftLeft_xor]
  by_cases h1 : a &&& 0x80 = 0 <;> by_cases h2 : b &&& 0x80 = 0
  · rw [if_pos h1, if_pos h2, if_pos (key.mpr ⟨fun _ => h2, fun _ => h1⟩)]
  · rw [if_pos h1, if_neg h2, if_neg (fun h => h2 ((key.mp h).mp h1))]; ac_rfl
  · rw [if_neg h1, if_pos h2, if_neg (fun h => h1 ((key.mp h).mpr h2))]; ac_rfl
  · rw [if_neg h1, if_neg h2, if_pos (key.mpr ⟨fun h => absurd h h1, fun h => absurd h h2⟩)]
    have : a <<< 1 ^^^ (27 : UInt8) ^^^ (b <<< 1 ^^^ (27 : UInt8)) = a <<< 1 ^^^ b <<< 1 ^^^ ((27 : UInt8) ^^^ 27) := by ac_rfl
    rw [this, UInt8.xor_self, UInt8.xor_zero]

theorem xor_cancel_left (a b : UInt8) : a ^^^ (a ^^^ b) = b := by
  rw [← UInt8.xor_assoc, UInt8.xor_self, UInt8.zero_xor]

/-! None of the inverses on states needs a hypothesis on the length: on a state of the wrong shape `shiftRows` and `mixColumns` (and
their inverses) are the identity. -/

theorem invSub_sub (s : State) : invSubBytes (subBytes s) = s := by
  simp [invSubBytes, subBytes, Function.comp_def, isbox_sbox]
theorem sub_invSub (s : State) : subBytes (invSubBytes s) = s := by
  simp [invSubBytes, subBytes, Function.comp_def, sbox_isbox]

theorem invShift_shift (s : State) : invShiftRows (shiftRows s) = s := by
  fun_cases shiftRows s with
  | case1 => rfl
  | case2 s h => rw [invShiftRows.eq_2 s h]
theorem shift_invShift (s : State) : shiftRows (invShiftRows s) = s := by
  fun_cases invShiftRows s with
  | case1 => rfl
  | case2 s h => rw [shiftRows.eq_2 s h]

-- Each entry becomes an XOR of terms `xtimeⁱ aⱼ`; sorted, equal terms stand side by side and cancel from the inside out.
theorem invMix_mix (s : State) : invMixColumns (mixColumns s) = s := by
  fun_induction mixColumns s with
  | case1 a0 a1 a2 a3 r ih =>
    rw [invMixColumns, ih]
    simp only [mul14, mul13, mul11, mul9, mul8, mul4, mul3, mul2, xtime_xor]
    ac_nf
    simp only [xor_cancel_left, UInt8.xor_self, UInt8.xor_zero]
  | case2 s h => rw [invMixColumns.eq_2 s h]
theorem mix_invMix (s : State) : mixColumns (invMixColumns s) = s := by
  fun_induction invMixColumns s with
  | case1 a0 a1 a2 a3 r ih =>
    rw [mixColumns, ih]
    simp only [mul14, mul13, mul11, mul9, mul8, mul4, mul3, mul2, xtime_xor]
    ac_nf
    simp only [xor_cancel_left, UInt8.xor_self, UInt8.xor_zero]
  | case2 s h => rw [mixColumns.eq_2 s h]

@[simp] theorem subBytes_len (s : State) : (subBytes s).length = s.length := by simp [subBytes]
@[simp] theorem invSubBytes_len (s : State) : (invSubBytes s).length = s.length := by simp [invSubBytes]
@[simp] theorem shiftRows_len (s : State) : (shiftRows s).length = s.length := by
  unfold shiftRows; split <;> rfl
@[simp] theorem invShiftRows_len (s : State) : (invShiftRows s).length = s.length := by
  unfold invShiftRows; split <;> rfl
@[simp] theorem mixColumns_len (s : State) : (mixColumns s).length = s.length := by
  fun_induction mixColumns s <;> simp [*]
@[simp] theorem invMixColumns_len (s : State) : (invMixColumns s).length = s.length := by
  fun_induction invMixColumns s <;> simp [*]

theorem addRoundKey_len : ∀ (s k : List UInt8), (addRoundKey s k).length = min s.length k.length
  | [], _ => by simp [addRoundKey]
  | _ :: _, [] => by simp [addRoundKey]
  | a :: s, b :: k => by simp [addRoundKey, addRoundKey_len s k]

theorem addRoundKey_cancel : ∀ (s k : List UInt8), s.length ≤ k.length → addRoundKey (addRoundKey s k) k = s
  | [], _, _ => by simp [addRoundKey]
  | a :: s, [], h => by simp at h
  | a :: s, b :: k, h => by
    simp only [addRoundKey]
    rw [addRoundKey_cancel s k (by simpa using h), UInt8.xor_assoc, UInt8.xor_self, UInt8.xor_zero]

end Psec.AES
