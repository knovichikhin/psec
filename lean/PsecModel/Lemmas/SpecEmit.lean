import PsecModel.Lemmas.SpecRefine
/-!
What `wrap` and the specification's builder emit is opened by the other side. Both emit `assembled header ‖ hex ‖ hex`; psec's
`unwrap` opens such a string when the pieces check out, which the builder's do. Both kinds of string are canonical, so the
refinement theorem carries each round trip over to the other reader.
-/
namespace Psec.Tr31
open Psec.Spec.TR31

theorem dec4_eq (n : Nat) : dec4 n = dec4s n := rfl
theorem dec2_eq (n : Nat) : dec2 n = dec2s n := rfl

theorem unwrap_parts (c : Ciphers) (kbpk : Bytes) (h : Header) (hw : h.WF) (total n : Nat) (opt : PyStr) (enc t : Bytes)
    (u : Bool) (key : Bytes) (bs ml : Nat)
    (hbl : blocksLoad n (opt ++ (hexOfBytes u enc ++ hexOfBytes u t)) = (.ok opt.length, h.blocks))
    (htot : total = 16 + opt.length + 2 * enc.length + 2 * t.length) (hle : total ≤ 9999) (hn : n ≤ 99)
    (hbs : algoBs h.versionId = some bs) (hml : macLen h.versionId = some ml) (ht : t.length = ml) (hmod : total % bs = 0)
    (hdisp : unwrapDispatch c h.versionId kbpk (h.assemble total n opt) enc t = .ok key) :
    unwrapFn c kbpk (h.assemble total n opt ++ hexOfBytes u enc ++ hexOfBytes u t) = .ok (h, key) := by
  have hhl : (h.assemble total n opt).length = 16 + opt.length := assemble_length h hw _ _ _ hle hn
  have hyl : (hexOfBytes u t).length = ml * 2 := by rw [hexOfBytes_length, ht, Nat.mul_comm]
  rw [List.append_assoc]
  refine (unwrapFn_ok_iff c kbpk _ h key).mpr ⟨16 + opt.length, load_assemble h hw total n opt _ hle hn hbl, ?_⟩
  have hlen : (h.assemble total n opt ++ (hexOfBytes u enc ++ hexOfBytes u t)).length = total := by
    rw [List.length_append, List.length_append, hhl, hexOfBytes_length, hexOfBytes_length, htot]; omega
  rw [unwrapTail_ok_iff c kbpk _ _ _ key bs ml hbs hml, assemble_lenfield h hw _ n opt _ hle, decVal_dec4s _ hle, hlen,
    List.drop_left' hhl, List.take_left' hhl, lastN_append_right _ _ _ hyl, dropLastN_append_right _ _ _ hyl]
  exact ⟨dec4s_numeric _, rfl, hmod, t, enc, fromHexWs_hexOfBytes u t, ht, fromHexWs_hexOfBytes u enc, hdisp⟩

/-- the header section as `Spec.TR31.build` writes it -/
def specLine (h : Header) (v total n : Nat) (opt : PyStr) : PyStr :=
  [v] ++ dec4 total ++ h.keyUsage ++ h.algorithm ++ h.modeOfUse ++ h.versionNum ++ h.exportability ++ dec2 n ++ h.reserved ++ opt

theorem specLine_length (h : Header) (hw : h.WF) (v total n : Nat) (opt : PyStr) : (specLine h v total n opt).length = 16 + opt.length := by
  simp only [specLine, List.length_append, List.length_cons, List.length_nil, dec4_eq, dec2_eq, dec4s_length, dec2s_length,
    hw.ku.1, hw.alg.1, hw.mou.1, hw.vn.1, hw.ex.1, hw.res.1]

theorem specLine_printable (h : Header) (hw : h.WF) (v total n : Nat) (opt : PyStr) (hv : h.versionId = [v])
    (hopt : asciiPrintable opt = true) : asciiPrintable (specLine h v total n opt) = true := by
  simp only [specLine, asciiPrintable_append, dec4_eq, dec2_eq, hv ▸ alnum_printable (versionOk_len _ hw.ver).2,
    alnum_printable (numeric_alnum (dec4s_numeric total)), alnum_printable (numeric_alnum (dec2s_numeric n)),
    alnum_printable hw.ku.2, alnum_printable hw.alg.2, alnum_printable hw.mou.2, alnum_printable hw.vn.2,
    alnum_printable hw.ex.2, alnum_printable hw.res.2, hopt, Bool.and_self]

theorem specLine_eq_assemble (h : Header) (v : Nat) (hv : h.versionId = [v]) (total n : Nat) (opt : PyStr) (hle : total ≤ 9999)
    (hn : n ≤ 99) : specLine h v total n opt = h.assemble total n opt := by
  unfold Header.assemble
  rw [zfill4_eq _ hle, zfill2_eq _ hn, hv]; rfl

theorem build_eq (c : Ciphers) (kbpk : Bytes) (h : Header) (forms : List Nat) (padMode : Nat) (key pad : Bytes) (lower : Bool)
    (v : Nat) (hv : h.versionId = [v]) (opt : PyStr) (cnt total : Nat) (clear : Bytes) (H : PyStr)
    (hopt : opt = encodeBlocks h.blocks forms ++ (padBlock (bsOf v) (encodeBlocks h.blocks forms).length padMode).1)
    (hcnt : cnt = (padBlock (bsOf v) (encodeBlocks h.blocks forms).length padMode).2)
    (hclear : clear = [hi (8 * key.length), lo (8 * key.length)] ++ key ++ pad)
    (htotal : total = 16 + opt.length + 2 * clear.length + 2 * macLenOf v)
    (hH : H = specLine h v total (h.blocks.length + cnt) opt) :
    build c kbpk h forms padMode key pad lower =
      H ++ hexOfBytes (!lower) (specSeal c v kbpk H clear).1 ++ hexOfBytes (!lower) (specSeal c v kbpk H clear).2 := by
  subst hopt hcnt hclear htotal hH
  unfold build specSeal specLine
  simp only [hv, List.headD_cons]
  by_cases hbd : v = 66 ∨ v = 68
  · rw [if_pos hbd, if_pos hbd]
  · rw [if_neg hbd, if_neg hbd]

theorem padBlock_printable (bs n m : Nat) : asciiPrintable (padBlock bs n m).1 = true := by
  unfold padBlock
  split
  · have hpb : asciiPrintable [80, 66] = true := by decide
    simp only [asciiPrintable_append, hpb, hexchar_printable (natHex_isHex _ _), Bool.and_self]
    exact zerosS_printable _
  · rfl

theorem padBlock_aligns (bs n m : Nat) (hbs : bs = 8 ∨ bs = 16) : (16 + (n + (padBlock bs n m).1.length)) % bs = 0 := by
  unfold padBlock padSize
  split
  · simp only [List.length_append, List.length_cons, List.length_nil, natHex_length, List.length_replicate]
    rcases hbs with rfl | rfl <;> omega
  · rename_i hn
    simp only [List.length_nil, Nat.add_zero]
    rcases hbs with rfl | rfl <;> omega

theorem build_sealed (c : Ciphers) (hc : c.Lawful) (kbpk : Bytes) (h : Header) (forms : List Nat) (padMode : Nat)
    (key pad : Bytes) (lower : Bool) (hw : h.WF) (v : Nat) (hv : h.versionId = [v])
    (hkp : (2 + key.length + pad.length) % bsOf v = 0) (hk : kbpkOk v kbpk = true) (opt : PyStr) (total : Nat) (H : PyStr)
    (hopt : opt = encodeBlocks h.blocks forms ++ (padBlock (bsOf v) (encodeBlocks h.blocks forms).length padMode).1)
    (htotal : total = 16 + opt.length + 2 * (2 + key.length + pad.length) + 2 * macLenOf v)
    (hH : H = specLine h v total (h.blocks.length + (padBlock (bsOf v) (encodeBlocks h.blocks forms).length padMode).2) opt) :
    ∃ enc t, build c kbpk h forms padMode key pad lower = H ++ hexOfBytes (!lower) enc ++ hexOfBytes (!lower) t ∧
      (build c kbpk h forms padMode key pad lower).length = total ∧ total % bsOf v = 0 ∧
      total = 16 + opt.length + 2 * enc.length + 2 * t.length ∧ t.length = macLenOf v ∧
      (8 * key.length < 65536 → unwrapDispatch c [v] kbpk H enc t = .ok key) := by
  obtain ⟨-, -, hbs8, h2ml⟩ := algo_of v (hv ▸ hw.ver)
  generalize hclear : [hi (8 * key.length), lo (8 * key.length)] ++ key ++ pad = clear
  have hcl : clear.length = 2 + key.length + pad.length := by rw [← hclear]; simp; omega
  rw [← hcl] at htotal
  have hb := build_eq c kbpk h forms padMode key pad lower v hv opt _ total clear H hopt rfl hclear.symm htotal hH
  have hoptmod : (16 + opt.length) % bsOf v = 0 := by
    rw [hopt, List.length_append]; exact padBlock_aligns _ _ _ hbs8
  have hHlen : H.length = 16 + opt.length := hH ▸ specLine_length h hw ..
  have hHpr : asciiPrintable H = true := hH ▸ specLine_printable h hw _ _ _ _ hv
    (by rw [hopt, asciiPrintable_append, encodeBlocks_printable _ _ hw.blocks, padBlock_printable]; rfl)
  obtain ⟨hel, htl, hdisp⟩ := seal_opens c hc v kbpk hk H hHpr ⟨fun _ => hHlen ▸ hoptmod, fun _ _ => by omega⟩ key pad hkp clear
    hclear.symm
  refine ⟨_, _, hb, ?_, ?_, by rw [hel, htl, htotal], htl, hdisp⟩
  · rw [hb, List.length_append, List.length_append, hHlen, hexOfBytes_length, hexOfBytes_length, hel, htl, htotal]
  · have e1 : (2 * clear.length) % bsOf v = 0 := by rw [Nat.mul_mod, hcl, hkp]; simp
    rw [htotal]
    exact add_mod_zero (add_mod_zero hoptmod e1) h2ml

/-- in lengths alone, so that an example can bound the length without evaluating a cipher -/
theorem build_length (c : Ciphers) (hc : c.Lawful) (kbpk : Bytes) (h : Header) (forms : List Nat) (padMode : Nat)
    (key pad : Bytes) (lower : Bool) (hw : h.WF) (v : Nat) (hv : h.versionId = [v])
    (hkp : (2 + key.length + pad.length) % bsOf v = 0) (hk : kbpkOk v kbpk = true) :
    (build c kbpk h forms padMode key pad lower).length =
      16 + (encodeBlocks h.blocks forms ++ (padBlock (bsOf v) (encodeBlocks h.blocks forms).length padMode).1).length +
        2 * (2 + key.length + pad.length) + 2 * macLenOf v := by
  obtain ⟨_, _, -, hl, -⟩ := build_sealed c hc kbpk h forms padMode key pad lower hw v hv hkp hk _ _ _ rfl rfl rfl
  exact hl

theorem build_opens (c : Ciphers) (hc : c.Lawful) (kbpk : Bytes) (h : Header) (forms : List Nat) (padMode : Nat)
    (key pad : Bytes) (lower : Bool) (hw : h.WF) (hnp : NoPadIds h.blocks) (hf : FormsOK h.blocks forms)
    (v : Nat) (hv : h.versionId = [v])
    (hkp : (2 + key.length + pad.length) % bsOf v = 0)
    (hps : 4 + padSize (bsOf v) (encodeBlocks h.blocks forms).length padMode ≤ 255)
    (hcnt : h.blocks.length + (padBlock (bsOf v) (encodeBlocks h.blocks forms).length padMode).2 ≤ 99)
    (hlen : (build c kbpk h forms padMode key pad lower).length ≤ 9999)
    (hk : kbpkOk v kbpk = true) :
    ∃ total enc t, total ≤ 9999 ∧ build c kbpk h forms padMode key pad lower =
        h.assemble total (h.blocks.length + (padBlock (bsOf v) (encodeBlocks h.blocks forms).length padMode).2)
          (encodeBlocks h.blocks forms ++ (padBlock (bsOf v) (encodeBlocks h.blocks forms).length padMode).1) ++
        hexOfBytes (!lower) enc ++ hexOfBytes (!lower) t ∧
      unwrapFn c kbpk (build c kbpk h forms padMode key pad lower) = .ok (h, key) := by
  obtain ⟨hbs, hml, -⟩ := algo_of v (hv ▸ hw.ver)
  obtain ⟨enc, t, hb, hbl, hmod, htot, htl, hdisp⟩ :=
    build_sealed c hc kbpk h forms padMode key pad lower hw v hv hkp hk _ _ _ rfl rfl rfl
  rw [hbl] at hlen
  rw [specLine_eq_assemble h v hv _ _ _ hlen hcnt] at hb hdisp
  rw [← hv] at hdisp hbs hml
  refine ⟨_, enc, t, hlen, hb, ?_⟩
  rw [hb]
  refine unwrap_parts c kbpk h hw _ _ _ enc t (!lower) key (bsOf v) (macLenOf v) ?_ htot hlen hcnt hbs hml htl hmod
    (hdisp (by omega))
  exact blocksLoad_spec h.blocks forms (bsOf v) padMode _ (hw.blocksWF hnp) hw.nodup hf hps

theorem canon_assembled (h : Header) (hw : h.WF) (hnp : NoPadIds h.blocks) (total n : Nat) (opt tail : PyStr)
    (hle : total ≤ 9999) (hn : n ≤ 99) (padl : List (PyStr × PyStr))
    (hparse : parseBlocks n (opt ++ tail) = some (h.blocks ++ padl, tail))
    (hpadl : padl = [] ∨ ∃ z, padl = [([80, 66], z)])
    (hnows : ∀ ch ∈ tail, isSpaceC ch = false) (cnt : Nat) (bl : List (PyStr × PyStr)) (rest : PyStr)
    (hc : dec? (((h.assemble total n opt ++ tail).drop 12).take 2) = some cnt)
    (hp : parseBlocks cnt ((h.assemble total n opt ++ tail).drop 16) = some (bl, rest)) : Canon bl rest := by
  obtain ⟨v, k0, k1, a0, m0, v0, v1, x0, r0, r1, -, hasm, -⟩ := assemble_fields h hw total n hle hn opt
  have e12 : ((h.assemble total n opt ++ tail).drop 12).take 2 = dec2s n := by rw [hasm]; rfl
  have e16 : (h.assemble total n opt ++ tail).drop 16 = opt ++ tail := by rw [hasm]; rfl
  rw [e12, (dec?_iff (dec2s n) (List.cons_ne_nil _ _) n).mpr ⟨dec2s_numeric n, decVal_dec2s n hn⟩] at hc
  injection hc with hc
  subst hc
  rw [e16, hparse] at hp
  injection hp with hp
  injection hp with e1 e2
  subst e1 e2
  have hfil := filter_noPad h.blocks padl hnp hpadl
  refine ⟨hnows, by rw [hfil]; exact hw.nodup, fun b hb hpb => ?_⟩
  rcases List.mem_append.mp hb with hh | hh
  · rw [hnp b hh] at hpb; cases hpb
  · rcases hpadl with rfl | ⟨z, rfl⟩
    · simp at hh
    · simp at hh; rw [hh]

/-- C03 (`Props.C03.spec_roundtrip`); side conditions as in `build_opens` -/
theorem spec_roundtrip (c : Ciphers) (hc : c.Lawful) (kbpk : Bytes) (h : Header) (forms : List Nat) (padMode : Nat)
    (key pad : Bytes) (lower : Bool) (hw : h.WF) (hnp : NoPadIds h.blocks) (hf : FormsOK h.blocks forms)
    (v : Nat) (hv : h.versionId = [v])
    (hkp : (2 + key.length + pad.length) % bsOf v = 0)
    (hps : 4 + padSize (bsOf v) (encodeBlocks h.blocks forms).length padMode ≤ 255)
    (hcnt : h.blocks.length + (padBlock (bsOf v) (encodeBlocks h.blocks forms).length padMode).2 ≤ 99)
    (hlen : (build c kbpk h forms padMode key pad lower).length ≤ 9999)
    (hk : kbpkOk v kbpk = true) :
    Spec.TR31.unwrap c kbpk (build c kbpk h forms padMode key pad lower) = some (h, key) := by
  obtain ⟨total, enc, t, hle, hshape, hpsec⟩ := build_opens c hc kbpk h forms padMode key pad lower hw hnp hf v hv hkp hps hcnt hlen hk
  refine psec_to_spec c hc kbpk _ h key ?_ hpsec
  obtain ⟨padl, hparse, hpadl⟩ := specParse_section h.blocks forms _ _ (hexOfBytes (!lower) enc ++ hexOfBytes (!lower) t)
    hw.blocks hf (padBlock_section (bsOf v) _ padMode hps)
  rw [hshape, List.append_assoc]
  refine canon_assembled h hw hnp total _ _ _ hle hcnt padl (by rw [List.append_assoc]; exact hparse) hpadl fun ch hch => ?_
  exact (List.mem_append.mp hch).elim (hexOfBytes_nows _ _ ch) (hexOfBytes_nows _ _ ch)

theorem wrap_canon (c : Ciphers) (hc : c.Lawful) (kbpk : Bytes) (h : Header) (hw : h.WF) (hnp : NoPadIds h.blocks)
    (key : Bytes) (mask : Option Int) (entropy : Bytes) (s : PyStr)
    (hwrap : wrapFn c kbpk (.obj h) key mask entropy = .ok s) (cnt : Nat) (bl : List (PyStr × PyStr)) (rest : PyStr) :
    dec? ((s.drop 12).take 2) = some cnt → parseBlocks cnt (s.drop 16) = some (bl, rest) → Canon bl rest := by
  have hwrap' : KB.wrap c { kbpk := kbpk, header := h } key mask entropy = .ok s := hwrap
  obtain ⟨bs, ml, n, blocks, hdr, enc, mac, clear, -, -, hbs8, hbd, hhdr, hle, hs, -⟩ :=
    (wrap_facts c hc _ key mask entropy s hwrap').facts
  obtain ⟨body, pad, hbody, hblocks, hn99, -, hpad⟩ :=
    blocksDump_shape h.blocks bs n blocks (by omega) hbd
  have hnows : ∀ ch ∈ toHexU enc ++ toHexU mac, isSpaceC ch = false := fun ch hch => by
    rw [toHexU_eq_hexOfBytes, toHexU_eq_hexOfBytes] at hch
    exact (List.mem_append.mp hch).elim (hexOfBytes_nows _ _ ch) (hexOfBytes_nows _ _ ch)
  rw [hs, hhdr, List.append_assoc]
  generalize toHexU enc ++ toHexU mac = tail at hnows ⊢
  rcases hpad with ⟨rfl, rfl⟩ | ⟨p, -, hp2, rfl, rfl⟩
  · rw [List.append_nil] at hblocks
    subst hblocks
    exact canon_assembled h hw hnp _ _ blocks tail hle hn99 []
      (specParse_all h.blocks blocks tail 0 hw.blocks hbody [] tail (by simp [parseBlocks])) (Or.inl rfl) hnows cnt bl rest
  · subst hblocks
    refine canon_assembled h hw hnp _ _ _ tail hle hn99 [([80, 66], zerosS p)] ?_ (Or.inr ⟨_, rfl⟩) hnows cnt bl rest
    rw [List.append_assoc]
    exact specParse_all h.blocks body _ 1 hw.blocks hbody _ tail (specParse_pad p (by omega) tail)

end Psec.Tr31
