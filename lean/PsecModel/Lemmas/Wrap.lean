import PsecModel.Lemmas.Cmac
import PsecModel.Lemmas.Dec
import PsecModel.Lemmas.Result
/-! What the version-specific wrappers and unwrappers are made of: the MACs on admissible keys, the clear key data and its
length prefix, key extraction, CBC encryption as an invertible step. -/
namespace Psec.Tr31
open Psec.Props.C07 Psec.Props.C19

theorem cbcMac_des_ok (c : Ciphers) (hc : c.Lawful) (key data : Bytes) (n : Nat) (hk : tdesKeyOk key = true) (hn : n ≤ 8) :
    ∃ mac, Mac.generateCbcMac c key data 1 (some (n : Int)) (some .des) = .ok mac ∧ mac.length = n :=
  ⟨_, cbcMac_des_eq_mac1 c hc key data 1 n _ (Or.inr rfl) hk (Or.inl rfl) nofun,
    mac1_length _ 8 _ n (by decide) (hc.tdes_ed key hk).enc_len (Props.C08.padBy_posMult 1 data 8 (by decide)) hn⟩

theorem cbcMac_aes_ok (c : Ciphers) (hc : c.Lawful) (key data : Bytes) (n : Nat) (hk : aesKeyOk key = true) (hn : n ≤ 16) :
    ∃ mac, Mac.generateCbcMac c key data 1 (some (n : Int)) (some .aes) = .ok mac ∧ mac.length = n :=
  ⟨_, cbcMac_aes_eq_mac1 c hc key data 1 n hk (Or.inl rfl) nofun,
    mac1_length _ 16 _ n (by decide) (hc.aes_ed key hk).enc_len (Props.C08.padBy_posMult 1 data 16 (by decide)) hn⟩

theorem encodeAscii_printable (s : PyStr) (h : asciiPrintable s = true) :
    encodeAscii s = some (Spec.TR31.asciiBytes s) ∧ (Spec.TR31.asciiBytes s).length = s.length :=
  ⟨if_pos (printable_ascii s h), List.length_map _⟩

theorem bGenerateMac_ok (c : Ciphers) (hc : c.Lawful) (kbak : Bytes) (hdr : PyStr) (kd : Bytes)
    (hk : tdesKeyOk kbak = true) (hp : asciiPrintable hdr = true) : ∃ m, bGenerateMac c kbak hdr kd = .ok m ∧ m.length = 8 := by
  rw [bGenerateMac, subkey_des c hc kbak hk]
  simp only [cmacOver, (encodeAscii_printable hdr hp).1]
  exact cbcMac_des_ok c hc kbak _ 8 hk (Nat.le_refl _)

theorem dGenerateMac_ok (c : Ciphers) (hc : c.Lawful) (kbak : Bytes) (hdr : PyStr) (kd : Bytes)
    (hk : aesKeyOk kbak = true) (hp : asciiPrintable hdr = true) : ∃ m, dGenerateMac c kbak hdr kd = .ok m ∧ m.length = 16 := by
  rw [dGenerateMac, subkey_aes c hc kbak hk]
  simp only [cmacOver, (encodeAscii_printable hdr hp).1]
  exact cbcMac_aes_ok c hc kbak _ 16 hk (Nat.le_refl _)

theorem cGenerateMac_ok (c : Ciphers) (hc : c.Lawful) (kbak : Bytes) (hdr : PyStr) (kd : Bytes)
    (hk : tdesKeyOk kbak = true) (hp : asciiPrintable hdr = true) : ∃ m, cGenerateMac c kbak hdr kd = .ok m ∧ m.length = 4 := by
  simp only [cGenerateMac, (encodeAscii_printable hdr hp).1]
  exact cbcMac_des_ok c hc kbak _ 4 hk (by decide)

theorem small_fits8 (d : Bytes) (h : d.length ≤ 10000) : d.length * 8 < 256 ^ 8 := by
  have : (256 : Nat) ^ 8 = 18446744073709551616 := by decide
  omega
theorem small_fits16 (d : Bytes) (h : d.length ≤ 10000) : d.length * 8 < 256 ^ 16 := by
  have : (256 : Nat) ^ 16 = 340282366920938463463374607431768211456 := by decide
  omega

/-- the clear key data as a function of the encrypted key data and the MAC (what a holder of the KBPK recovers). The value `[]`
of `bRecover`, `dRecover` when the derivation fails means nothing: every statement about them has an admissible KBPK. -/
def bRecover (c : Ciphers) (kbpk : Bytes) (enc mac : Bytes) : Bytes :=
  match bDerive c kbpk with
  | .ok (kbek, _) => (cbcDecUpdate (c.tdesD kbek) 8 (enc.length / 8) mac enc).1
  | .error _ => []
def dRecover (c : Ciphers) (kbpk : Bytes) (enc mac : Bytes) : Bytes :=
  match dDerive c kbpk with
  | .ok (kbek, _) => (cbcDecUpdate (c.aesD kbek) 16 (enc.length / 16) mac enc).1
  | .error _ => []
def cRecover (c : Ciphers) (kbpk : Bytes) (hdr : PyStr) (enc _mac : Bytes) : Bytes :=
  (cbcDecUpdate (c.tdesD (cDerive kbpk).1) 8 (enc.length / 8) (((encodeAscii hdr).getD []).take 8) enc).1

theorem clear_len (key entropy clear : Bytes) (h : clearKeyData key entropy = .ok clear) :
    clear.length = 2 + key.length + entropy.length ∧ key.length * 8 < 65536 ∧
    clear = toBytesBEAux 2 (key.length * 8) [] ++ key ++ entropy := by
  unfold clearKeyData at h
  cases hb : toBytesBE 2 (key.length * 8) with
  | none => rw [hb] at h; cases h
  | some l =>
    rw [hb] at h
    injection h with h
    obtain ⟨hlt, hl, hlen, _⟩ := toBytesBE_some _ _ _ hb
    subst h
    refine ⟨by simp [hlen]; omega, by simpa using hlt, by rw [hl]⟩

theorem clearKeyData_ok (key entropy : Bytes) (h : key.length * 8 < 65536) : ∃ cl, clearKeyData key entropy = .ok cl := by
  unfold clearKeyData
  rw [toBytesBE_of_lt 2 _ (by simpa using h)]
  exact ⟨_, rfl⟩

theorem clear_dataOk (bs : Nat) (hbs : 0 < bs) (key entropy clear : Bytes) (extraPad : Nat)
    (hcl : clearKeyData key entropy = .ok clear) (he : entropy.length = bs - (2 + key.length + extraPad) % bs + extraPad) :
    DataOk bs clear := by
  have hpa := pad_arith bs (2 + key.length + extraPad) hbs
  rw [DataOk, (clear_len key entropy clear hcl).1, he,
    show 2 + key.length + (bs - (2 + key.length + extraPad) % bs + extraPad) =
      2 + key.length + extraPad + (bs - (2 + key.length + extraPad) % bs) by omega]
  exact ⟨hpa.2, hpa.1⟩

/-- psec tests the length of a slice; this is the bound test it amounts to -/
theorem extractKey_iff (clear key : Bytes) (h2 : 2 ≤ clear.length) :
    extractKey clear = .ok key ↔
      fromBytesBE (clear.take 2) % 8 = 0 ∧ fromBytesBE (clear.take 2) / 8 + 2 ≤ clear.length ∧
      key = (clear.drop 2).take (fromBytesBE (clear.take 2) / 8) := by
  unfold extractKey
  simp only [guard_eq_ok, Decidable.not_not, Except.ok.injEq]
  generalize fromBytesBE (clear.take 2) = kl
  have heq : (clear.take (kl / 8 + 2)).drop 2 = (clear.drop 2).take (kl / 8) := by rw [List.drop_take]; simp
  rw [heq, List.length_take, List.length_drop]
  exact and_congr_right fun _ => ⟨fun ⟨a, b⟩ => ⟨by omega, b.symm⟩, fun ⟨a, b⟩ => ⟨by omega, b.symm⟩⟩

theorem extractKey_prefixed (l key pad : Bytes) (hl : l.length = 2) (hv : fromBytesBE l = 8 * key.length) :
    extractKey (l ++ key ++ pad) = .ok key := by
  unfold extractKey
  have htk : (l ++ key ++ pad).take 2 = l := by rw [List.append_assoc, List.take_left' hl]
  have hkey : ((l ++ key ++ pad).take (8 * key.length / 8 + 2)).drop 2 = key := by
    rw [Nat.mul_div_cancel_left _ (by decide : 0 < 8), Nat.add_comm, ← hl, List.append_assoc, List.take_length_add_append,
      List.drop_left, List.take_left]
  simp only [htk, hv, hkey]
  rw [if_neg (by omega), if_neg (by rw [Nat.mul_div_cancel_left _ (by decide : 0 < 8)]; simp)]

/-- the specification writes the 16-bit length prefix as `[hi n, lo n]`, psec as `n.to_bytes(2, "big")` -/
theorem hi_lo_eq (n : Nat) : [Spec.TR31.hi n, Spec.TR31.lo n] = toBytesBEAux 2 n [] := by
  simp only [Spec.TR31.hi, Spec.TR31.lo, toBytesBEAux]
  exact congrArg (· :: _) UInt8.ofNat_mod_size.symm

theorem extractKey_spec (key pad : Bytes) (hk : 8 * key.length < 65536) :
    extractKey ([Spec.TR31.hi (8 * key.length), Spec.TR31.lo (8 * key.length)] ++ key ++ pad) = .ok key := by
  rw [hi_lo_eq]
  exact extractKey_prefixed _ key pad (toBytesBEAux_length _ _) (by rw [fromBytesBE_toBytesBEAux, Nat.mod_eq_of_lt hk])

theorem extractKey_clear (key entropy clear : Bytes) (h : clearKeyData key entropy = .ok clear) :
    extractKey clear = .ok key := by
  obtain ⟨-, hlt, rfl⟩ := clear_len key entropy clear h
  refine extractKey_prefixed _ key entropy (toBytesBEAux_length _ _) ?_
  rw [fromBytesBE_toBytesBEAux, Nat.mod_eq_of_lt (by simpa using hlt), Nat.mul_comm]

theorem tdes_cbc_enc_inv (c : Ciphers) (hc : c.Lawful) (key iv data ct : Bytes) (h : Des.encryptTdesCbc c key iv data = .ok ct) :
    iv.length = 8 ∧ ct.length = data.length ∧ Des.decryptTdesCbc c key iv ct = .ok data ∧
      (cbcDecUpdate (c.tdesD key) 8 (ct.length / 8) iv ct).1 = data := by
  obtain ⟨⟨hd, hk, hiv⟩, _⟩ := guard_eq_ok'.mp ((tdes_cbc_enc_eq c key iv data).symm.trans h)
  obtain ⟨ct', h1, h2, h3⟩ := tdes_cbc_dec_enc c hc key iv data hk hiv hd
  cases h.symm.trans h1
  refine ⟨hiv, h2, h3, ?_⟩
  rw [tdes_cbc_dec_ok c key iv ct hk hiv ⟨h2 ▸ hd.1, h2 ▸ hd.2⟩] at h3
  exact Except.ok.inj h3

theorem aes_cbc_enc_inv (c : Ciphers) (hc : c.Lawful) (key iv data ct : Bytes) (h : Aes.encryptAesCbc c key iv data = .ok ct) :
    iv.length = 16 ∧ ct.length = data.length ∧ Aes.decryptAesCbc c key iv ct = .ok data ∧
      (cbcDecUpdate (c.aesD key) 16 (ct.length / 16) iv ct).1 = data := by
  obtain ⟨⟨hd, hk, hiv⟩, _⟩ := guard_eq_ok'.mp ((aes_cbc_enc_eq c key iv data).symm.trans h)
  obtain ⟨ct', h1, h2, h3⟩ := aes_cbc_dec_enc c hc key iv data hk hiv hd
  cases h.symm.trans h1
  refine ⟨hiv, h2, h3, ?_⟩
  rw [aes_cbc_dec_ok c key iv ct hk hiv ⟨h2 ▸ hd.1, h2 ▸ hd.2⟩] at h3
  exact Except.ok.inj h3

end Psec.Tr31
