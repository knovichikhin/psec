import PsecModel.Lemmas.Cmac
/-! psec's key derivations equal the TR-31 counter-mode KDF over SP 800-38B CMAC (B, D) and the key variants (A, C). -/
namespace Psec.Tr31
open Psec.Spec

/-- one CMAC call of `_b_derive` / `_d_derive`: the CBC-MAC of a single block is one encryption -/
theorem derive_call_des (c : Ciphers) (hc : c.Lawful) (kbpk X : Bytes) (hk : tdesKeyOk kbpk = true) (hX : X.length = 8) :
    Mac.generateCbcMac c kbpk X 1 (some 8) (some .des) = .ok (c.tdesE kbpk X) :=
  Props.C07.cbcMacWith_block (by decide) (hc.tdes_ed kbpk hk).enc_len (Props.C19.tdes_cbc_enc_ok c kbpk _ · hk rfl) X hX

theorem derive_call_aes (c : Ciphers) (hc : c.Lawful) (kbpk X : Bytes) (hk : aesKeyOk kbpk = true) (hX : X.length = 16) :
    Mac.generateCbcMac c kbpk X 1 (some 16) (some .aes) = .ok (c.aesE kbpk X) :=
  Props.C07.cbcMacWith_block (by decide) (hc.aes_ed kbpk hk).enc_len (Props.C19.aes_cbc_enc_ok c kbpk _ · hk rfl) X hX

theorem bDerive_eq_kdf (c : Ciphers) (hc : c.Lawful) (kbpk : Bytes) (hk : kbpk.length = 16 ∨ kbpk.length = 24) :
    bDerive c kbpk = .ok (Spec.TR31.deriveKeys c 66 kbpk) := by
  have hkk := (tdesKeyOk_iff kbpk).mpr (.inr hk)
  unfold bDerive Spec.TR31.deriveKeys
  rw [subkey_des c hc kbpk hkk]
  simp only [if_true]
  have hz : Spec.zeroBytes 8 = zeros 8 := rfl
  -- `p1`, `p2` will be `[hi a, lo a]`, `[hi l, lo l]` for the algorithm indicator `a` (0 … 4) and the key length `l` in bits
  -- (128 = `0x0080`, 192 = `0x00C0`, 256 = `0x0100`) of `Spec.TR31.deriveKeys`
  have call : ∀ (i u : UInt8) (p1 p2 : Bytes), p1.length = 2 → p2.length = 2 →
      Mac.generateCbcMac c kbpk (Tools.xor ([i, 0, u, 0] ++ p1 ++ p2) (dbl 0x1B (c.tdesE kbpk (zeros 8)))) 1 (some 8) (some .des) =
        .ok (Spec.cmac (c.tdesE kbpk) 8 ([i, 0, u, 0] ++ p1 ++ p2)) := by
    intro i u p1 p2 h1 h2
    have hl : ([i, 0, u, 0] ++ p1 ++ p2).length = 8 := by simp [h1, h2]
    rw [derive_call_des c hc kbpk _ hkk (by rw [Tools.xor_eq, xorBytes_length, hl]), cmac_block _ 8 (by decide) (hc.tdes_ed kbpk hkk).enc_len _ hl, Tools.xor_eq, hz]
    rfl
  rcases hk with h | h
  · simp only [if_pos h]
    simp only [deriveLoop, call _ _ [0, 0] [0, 0x80] rfl rfl, Spec.TR31.kdfLoop, Spec.TR31.kdInput, Spec.TR31.hi, Spec.TR31.lo]
    rfl
  · have h16 : ¬ kbpk.length = 16 := by omega
    simp only [if_neg h16]
    simp only [deriveLoop, call _ _ [0, 1] [0, 0xC0] rfl rfl, Spec.TR31.kdfLoop, Spec.TR31.kdInput, Spec.TR31.hi, Spec.TR31.lo]
    rfl

/-- the code's `8 bytes ‖ 80 00…` XOR `K2` is the CMAC of the 8-byte message (`cmac_half_block_aes`) -/
theorem dDerive_eq_kdf (c : Ciphers) (hc : c.Lawful) (kbpk : Bytes) (hk : kbpk.length = 16 ∨ kbpk.length = 24 ∨ kbpk.length = 32) :
    dDerive c kbpk = .ok (Spec.TR31.deriveKeys c 68 kbpk) := by
  have hkk := (aesKeyOk_iff kbpk).mpr hk
  unfold dDerive Spec.TR31.deriveKeys
  rw [subkey_aes c hc kbpk hkk]
  have e1 : ¬ ((68 : Nat) = 66) := by decide
  simp only [e1, if_false, if_true]
  have hz : Spec.zeroBytes 16 = zeros 16 := rfl
  have call : ∀ (i u : UInt8) (p1 p2 : Bytes), p1.length = 2 → p2.length = 2 →
      Mac.generateCbcMac c kbpk (Tools.xor ([i, 0, u, 0] ++ p1 ++ p2 ++ [0x80, 0, 0, 0, 0, 0, 0, 0])
        (dbl 0x87 (dbl 0x87 (c.aesE kbpk (zeros 16))))) 1 (some 16) (some .aes) =
        .ok (Spec.cmac (c.aesE kbpk) 16 ([i, 0, u, 0] ++ p1 ++ p2)) := by
    intro i u p1 p2 h1 h2
    have hl : ([i, 0, u, 0] ++ p1 ++ p2).length = 8 := by simp [h1, h2]
    have hl16 : ([i, 0, u, 0] ++ p1 ++ p2 ++ [0x80, 0, 0, 0, 0, 0, 0, 0]).length = 16 := by simp [h1, h2]
    rw [derive_call_aes c hc kbpk _ hkk (by rw [Tools.xor_eq, xorBytes_length, hl16]), cmac_half_block_aes _ _ hl, Tools.xor_eq, hz]
  rcases hk with h | h | h
  · simp only [if_pos h]
    simp only [deriveLoop, call _ _ [0, 2] [0, 0x80] rfl rfl, Spec.TR31.kdfLoop, Spec.TR31.kdInput, Spec.TR31.hi, Spec.TR31.lo]
    rfl
  · have h16 : ¬ kbpk.length = 16 := by omega
    simp only [if_neg h16, if_pos h]
    simp only [deriveLoop, call _ _ [0, 3] [0, 0xC0] rfl rfl, Spec.TR31.kdfLoop, Spec.TR31.kdInput, Spec.TR31.hi, Spec.TR31.lo]
    rfl
  · have h16 : ¬ kbpk.length = 16 := by omega
    have h24 : ¬ kbpk.length = 24 := by omega
    simp only [if_neg h16, if_neg h24]
    simp only [deriveLoop, call _ _ [0, 4] [1, 0] rfl rfl, Spec.TR31.kdfLoop, Spec.TR31.kdInput, Spec.TR31.hi, Spec.TR31.lo]
    rfl

theorem cDerive_eq_variant (c : Ciphers) (kbpk : Bytes) (ver : Nat) (h1 : ver ≠ 66) (h2 : ver ≠ 68) :
    cDerive kbpk = Spec.TR31.deriveKeys c ver kbpk := by
  unfold cDerive Spec.TR31.deriveKeys
  simp only [h1, h2, if_false, Tools.xor_eq, xorBytes_const]

theorem kbpkOk_B (k : Bytes) : TR31.kbpkOk 66 k = true ↔ (k.length = 16 ∨ k.length = 24) := by
  simp [TR31.kbpkOk]
theorem kbpkOk_D (k : Bytes) : TR31.kbpkOk 68 k = true ↔ (k.length = 16 ∨ k.length = 24 ∨ k.length = 32) := by
  simp [TR31.kbpkOk, or_assoc]
theorem kbpkOk_AC {v : Nat} (h1 : v ≠ 66) (h2 : v ≠ 68) (k : Bytes) :
    TR31.kbpkOk v k = true ↔ (k.length = 8 ∨ k.length = 16 ∨ k.length = 24) := by
  simp [TR31.kbpkOk, h1, h2, or_assoc]

theorem kdfLoop_length (E : Bytes → Bytes) (bs u a l : Nat) (hlen : ∀ i, (cmac E bs (TR31.kdInput i u a l)).length = bs)
    (calls : List Nat) : (TR31.kdfLoop E bs u a l calls).length = bs * calls.length := by
  induction calls with
  | nil => rfl
  | cons i r ih => rw [TR31.kdfLoop, List.length_append, hlen, ih, List.length_cons, Nat.mul_succ, Nat.add_comm]

theorem deriveKeys_length (c : Ciphers) (hc : c.Lawful) (ver : Nat) (kbpk : Bytes) (hk : TR31.kbpkOk ver kbpk = true) :
    (TR31.deriveKeys c ver kbpk).1.length = kbpk.length ∧ (TR31.deriveKeys c ver kbpk).2.length = kbpk.length := by
  unfold TR31.deriveKeys
  by_cases h66 : ver = 66
  · have hk' := (kbpkOk_B kbpk).mp (h66 ▸ hk)
    have hkk := (tdesKeyOk_iff kbpk).mpr (.inr hk')
    have hl : ∀ u a l i, (cmac (c.tdesE kbpk) 8 (TR31.kdInput i u a l)).length = 8 := fun u a l i => by
      rw [cmac_block _ 8 (by decide) (hc.tdes_ed kbpk hkk).enc_len _ rfl]
      exact hc.tdes_enc_len kbpk _ hkk (by rw [xorBytes_length]; rfl)
    rcases hk' with h | h <;> simp [h66, h, kdfLoop_length _ 8 _ _ _ (hl _ _ _)]
  · by_cases h68 : ver = 68
    · have hk' := (kbpkOk_D kbpk).mp (h68 ▸ hk)
      have hkk := (aesKeyOk_iff kbpk).mpr hk'
      have hl : ∀ u a l i, (cmac (c.aesE kbpk) 16 (TR31.kdInput i u a l)).length = 16 := fun u a l i => by
        rw [cmac_half_block_aes _ _ rfl]
        exact hc.aes_enc_len kbpk _ hkk (by rw [xorBytes_length]; rfl)
      rcases hk' with h | h | h <;> simp [h68, h, kdfLoop_length _ 16 _ _ _ (hl _ _ _)]
    · simp [h66, h68]

theorem deriveKeys_keyOk (c : Ciphers) (hc : c.Lawful) (ver : Nat) (kbpk : Bytes) (hk : TR31.kbpkOk ver kbpk = true) :
    (ver = 68 → aesKeyOk (TR31.deriveKeys c ver kbpk).1 = true ∧ aesKeyOk (TR31.deriveKeys c ver kbpk).2 = true) ∧
    (ver ≠ 68 → tdesKeyOk (TR31.deriveKeys c ver kbpk).1 = true ∧ tdesKeyOk (TR31.deriveKeys c ver kbpk).2 = true) := by
  obtain ⟨h1, h2⟩ := deriveKeys_length c hc ver kbpk hk
  rw [aesKeyOk_iff, aesKeyOk_iff, tdesKeyOk_iff, tdesKeyOk_iff, h1, h2]
  refine ⟨fun e => ?_, fun e => ?_⟩
  · exact ⟨(kbpkOk_D kbpk).mp (e ▸ hk), (kbpkOk_D kbpk).mp (e ▸ hk)⟩
  · by_cases e66 : ver = 66
    · exact ⟨.inr ((kbpkOk_B kbpk).mp (e66 ▸ hk)), .inr ((kbpkOk_B kbpk).mp (e66 ▸ hk))⟩
    · exact ⟨(kbpkOk_AC e66 e kbpk).mp hk, (kbpkOk_AC e66 e kbpk).mp hk⟩

theorem cDerive_len (kbpk : Bytes) : (cDerive kbpk).1.length = kbpk.length ∧ (cDerive kbpk).2.length = kbpk.length := by
  unfold cDerive; simp [Tools.xor_eq]

theorem bDerive_ok (c : Ciphers) (hc : c.Lawful) (kbpk : Bytes) (hk : kbpk.length = 16 ∨ kbpk.length = 24) :
    ∃ kbek kbak, bDerive c kbpk = .ok (kbek, kbak) ∧ kbek.length = kbpk.length ∧ kbak.length = kbpk.length :=
  ⟨_, _, bDerive_eq_kdf c hc kbpk hk, deriveKeys_length c hc 66 kbpk ((kbpkOk_B kbpk).mpr hk)⟩

theorem dDerive_ok (c : Ciphers) (hc : c.Lawful) (kbpk : Bytes) (hk : kbpk.length = 16 ∨ kbpk.length = 24 ∨ kbpk.length = 32) :
    ∃ kbek kbak, dDerive c kbpk = .ok (kbek, kbak) ∧ kbek.length = kbpk.length ∧ kbak.length = kbpk.length :=
  ⟨_, _, dDerive_eq_kdf c hc kbpk hk, deriveKeys_length c hc 68 kbpk ((kbpkOk_D kbpk).mpr hk)⟩

end Psec.Tr31
