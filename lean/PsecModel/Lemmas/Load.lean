import PsecModel.Model.Tr31
import PsecModel.Lemmas.Result
/-!
`Header.load` and `KeyBlock.unwrap` as functions of the input string: the object they are called on matters only for what a
failing `load` leaves of it.
-/
namespace Psec.Tr31

/-- what `Header.load` computes from the input string alone: the outcome and, on success, the whole resulting object -/
def _root_.Psec.Props.C17.loadPure (t : PyStr) : R (Nat × Header) :=
  if ¬ asciiAlnum (t.take 16) then .error .header
  else if t.length < 16 then .error .header
  else if ¬ versionOk (t.take 1) then .error .header
  else if ((t.take 7).drop 5).length ≠ 2 ∨ ¬ asciiAlnum ((t.take 7).drop 5) then .error .header
  else if ((t.take 8).drop 7).length ≠ 1 ∨ ¬ asciiAlnum ((t.take 8).drop 7) then .error .header
  else if ((t.take 9).drop 8).length ≠ 1 ∨ ¬ asciiAlnum ((t.take 9).drop 8) then .error .header
  else if ((t.take 11).drop 9).length ≠ 2 ∨ ¬ asciiAlnum ((t.take 11).drop 9) then .error .header
  else if ((t.take 12).drop 11).length ≠ 1 ∨ ¬ asciiAlnum ((t.take 12).drop 11) then .error .header
  else if ¬ asciiNumeric ((t.take 14).drop 12) then .error .header
  else
    match (blocksLoad (decVal ((t.take 14).drop 12)) (t.drop 16)).1 with
    | .error e => .error e
    | .ok len => .ok (16 + len,
        { versionId := t.take 1, keyUsage := (t.take 7).drop 5, algorithm := (t.take 8).drop 7,
          modeOfUse := (t.take 9).drop 8, versionNum := (t.take 11).drop 9, exportability := (t.take 12).drop 11,
          reserved := (t.take 16).drop 14, blocks := (blocksLoad (decVal ((t.take 14).drop 12)) (t.drop 16)).2 })

open Psec.Props.C17

/-- the checks of `setKeyUsage` … `setExportability` cannot fail once `Header.load`'s first two have passed -/
theorem slice_ok (t : PyStr) (a b : Nat) (h : asciiAlnum (t.take 16) = true) (hl : 16 ≤ t.length) (hb : b ≤ 16) :
    ((t.take b).drop a).length = b - a ∧ asciiAlnum ((t.take b).drop a) = true := by
  refine ⟨by rw [List.length_drop, List.length_take]; omega, ?_⟩
  simp only [asciiAlnum, List.all_eq_true] at h ⊢
  intro x hx
  rw [← Nat.min_eq_left hb, ← List.take_take] at hx
  exact h x (List.mem_of_mem_take (List.mem_of_mem_drop hx))

/-- the checks on the 16 fixed characters that can fail before the block count is read -/
abbrev HeadOK (t : PyStr) : Prop := asciiAlnum (t.take 16) = true ∧ 16 ≤ t.length ∧ versionOk (t.take 1) = true

def fixedPart (t : PyStr) (blocks : Dict) : Header :=
  { versionId := t.take 1, keyUsage := (t.take 7).drop 5, algorithm := (t.take 8).drop 7,
    modeOfUse := (t.take 9).drop 8, versionNum := (t.take 11).drop 9, exportability := (t.take 12).drop 11,
    reserved := (t.take 16).drop 14, blocks := blocks }

def optBlocks (t : PyStr) : R Nat × Dict := blocksLoad (decVal ((t.take 14).drop 12)) (t.drop 16)

/-- The middle case is Python's assignments before the `raise` on a non-numeric block count: fields of `t`, blocks of `σ`. -/
theorem load_eq (σ : Header) (t : PyStr) : σ.load t =
    if HeadOK t then
      if asciiNumeric ((t.take 14).drop 12) = true then ((optBlocks t).1.map (16 + ·), fixedPart t (optBlocks t).2)
      else (.error .header, fixedPart t σ.blocks)
    else (.error .header, σ) := by
  unfold Header.load setVersionId
  by_cases h1 : asciiAlnum (t.take 16) = true
  case neg => simp [h1]
  by_cases h2 : 16 ≤ t.length
  case neg => simp [h1, Nat.not_le.mp h2, h2]
  by_cases h3 : versionOk (t.take 1) = true
  case neg => simp [h1, h2, h3]
  have s := fun a b => slice_ok t a b h1 h2
  rw [if_pos (show HeadOK t from ⟨h1, h2, h3⟩)]
  simp only [setKeyUsage, setAlgorithm, setModeOfUse, setVersionNum, setExportability,
    s 5 7 (by decide), s 7 8 (by decide), s 8 9 (by decide), s 9 11 (by decide), s 11 12 (by decide),
    h1, h3, Nat.not_lt.mpr h2, Nat.reduceSub, ne_eq, not_true_eq_false, or_self, if_true, if_false]
  by_cases hn : asciiNumeric ((t.take 14).drop 12) = true
  · rw [if_neg (not_not_intro hn), if_pos hn]
    unfold optBlocks
    cases (blocksLoad (decVal ((t.take 14).drop 12)) (t.drop 16)).1 <;> rfl
  · rw [if_pos hn, if_neg hn]; rfl

theorem loadPure_eq (t : PyStr) : loadPure t =
    if HeadOK t ∧ asciiNumeric ((t.take 14).drop 12) = true then
      (optBlocks t).1.map fun len => (16 + len, fixedPart t (optBlocks t).2)
    else .error .header := by
  unfold loadPure
  by_cases h1 : asciiAlnum (t.take 16) = true
  case neg => simp [h1]
  by_cases h2 : 16 ≤ t.length
  case neg => simp [h1, Nat.not_le.mp h2, h2]
  by_cases h3 : versionOk (t.take 1) = true
  case neg => simp [h1, h2, h3]
  by_cases hn : asciiNumeric ((t.take 14).drop 12) = true
  case neg => simp [hn]
  have s := fun a b => slice_ok t a b h1 h2
  rw [if_pos (show HeadOK t ∧ _ from ⟨⟨h1, h2, h3⟩, hn⟩)]
  simp only [s 5 7 (by decide), s 7 8 (by decide), s 8 9 (by decide), s 9 11 (by decide), s 11 12 (by decide),
    h1, h3, hn, Nat.not_lt.mpr h2, Nat.reduceSub, ne_eq, not_true_eq_false, or_self, if_false]
  unfold optBlocks
  cases (blocksLoad (decVal ((t.take 14).drop 12)) (t.drop 16)).1 <;> rfl

/-- C17: what `Header.load` returns, and on success the object it leaves, do not depend on the object it is called on -/
theorem _root_.Psec.Props.C17.load_eq_pure (σ : Header) (t : PyStr) :
    (σ.load t).1 = (loadPure t).map Prod.fst ∧ (∀ n hdr, loadPure t = .ok (n, hdr) → (σ.load t).2 = hdr) := by
  rw [load_eq, loadPure_eq]
  by_cases h : HeadOK t
  case neg => rw [if_neg h, if_neg (fun g => h g.1)]; exact ⟨rfl, fun _ _ h => by cases h⟩
  by_cases hn : asciiNumeric ((t.take 14).drop 12) = true
  case neg => rw [if_pos h, if_neg hn, if_neg (fun g => hn g.2)]; exact ⟨rfl, fun _ _ h => by cases h⟩
  rw [if_pos h, if_pos hn, if_pos ⟨h, hn⟩]
  cases (optBlocks t).1 with
  | error e => exact ⟨rfl, fun _ _ h => by cases h⟩
  | ok len => exact ⟨rfl, fun _ _ h => by cases h; rfl⟩

/-- the outcome of `KeyBlock.unwrap` depends on the object only through its KBPK -/
theorem unwrap_eq (c : Ciphers) (kb : KB) (s : PyStr) : KB.unwrap c kb s =
    (loadPure s >>= fun p => unwrapTail c kb.kbpk p.2.versionId s p.1, { kb with header := (kb.header.load s).2 }) := by
  obtain ⟨a1, a2⟩ := load_eq_pure kb.header s
  unfold KB.unwrap
  simp only [a1]
  cases hp : loadPure s with
  | error e => rfl
  | ok p => simp only [map_ok, ok_bind, a2 p.1 p.2 hp]

theorem unwrapFn_eq (c : Ciphers) (kbpk : Bytes) (s : PyStr) : unwrapFn c kbpk s =
    loadPure s >>= fun p => (unwrapTail c kbpk p.2.versionId s p.1).map (p.2, ·) := by
  obtain ⟨-, a2⟩ := load_eq_pure Header.fresh s
  unfold unwrapFn
  simp only [unwrap_eq]
  cases hp : loadPure s with
  | error e => rfl
  | ok p =>
    simp only [ok_bind, a2 p.1 p.2 hp]
    cases unwrapTail c kbpk p.2.versionId s p.1 <;> rfl

theorem loadPure_ok_iff (s : PyStr) (n : Nat) (h : Header) :
    loadPure s = .ok (n, h) ↔
      asciiAlnum (s.take 16) = true ∧ 16 ≤ s.length ∧ versionOk (s.take 1) = true ∧ asciiNumeric ((s.take 14).drop 12) = true ∧
      ∃ len, blocksLoad (decVal ((s.take 14).drop 12)) (s.drop 16) = (.ok len, h.blocks) ∧ n = 16 + len ∧
        h.versionId = s.take 1 ∧ h.keyUsage = (s.take 7).drop 5 ∧ h.algorithm = (s.take 8).drop 7 ∧
        h.modeOfUse = (s.take 9).drop 8 ∧ h.versionNum = (s.take 11).drop 9 ∧ h.exportability = (s.take 12).drop 11 ∧
        h.reserved = (s.take 16).drop 14 := by
  rw [loadPure_eq]
  obtain ⟨v, ku, al, mo, vn, ex, rs, bl⟩ := h
  simp only [guard_eq_ok', map_eq_ok, Prod.mk.injEq, fixedPart, Header.mk.injEq, optBlocks, HeadOK, and_assoc]
  constructor
  · rintro ⟨h1, h2, h3, h4, len, hb, rfl, rfl, rfl, rfl, rfl, rfl, rfl, rfl, rfl⟩
    exact ⟨h1, h2, h3, h4, len, Prod.ext hb rfl, rfl, rfl, rfl, rfl, rfl, rfl, rfl, rfl⟩
  · rintro ⟨h1, h2, h3, h4, len, hb, rfl, rfl, rfl, rfl, rfl, rfl, rfl, rfl⟩
    exact ⟨h1, h2, h3, h4, len, by rw [hb], rfl, rfl, rfl, rfl, rfl, rfl, rfl, rfl, by rw [hb]⟩

theorem unwrapTail_ok_iff (c : Ciphers) (kbpk : Bytes) (ver : PyStr) (s : PyStr) (m : Nat) (key : Bytes) (bs ml : Nat)
    (hbs : algoBs ver = some bs) (hml : macLen ver = some ml) :
    unwrapTail c kbpk ver s m = .ok key ↔
      asciiNumeric ((s.take 5).drop 1) = true ∧ decVal ((s.take 5).drop 1) = s.length ∧ s.length % bs = 0 ∧
      ∃ mac kd, fromHexWs (lastN (s.drop m) (ml * 2)) = some mac ∧ mac.length = ml ∧
        fromHexWs (dropLastN (s.drop m) (ml * 2)) = some kd ∧ unwrapDispatch c ver kbpk (s.take m) kd mac = .ok key := by
  unfold unwrapTail
  simp only [hbs, hml, guard_eq_ok, Decidable.not_not]
  cases fromHexWs (lastN (s.drop m) (ml * 2)) <;> cases fromHexWs (dropLastN (s.drop m) (ml * 2)) <;> simp

theorem unwrapFn_ok_iff (c : Ciphers) (kbpk : Bytes) (s : PyStr) (h : Header) (key : Bytes) :
    unwrapFn c kbpk s = .ok (h, key) ↔ ∃ m, loadPure s = .ok (m, h) ∧ unwrapTail c kbpk h.versionId s m = .ok key := by
  rw [unwrapFn_eq, bind_eq_ok]
  constructor
  · rintro ⟨p, hp, ht⟩
    obtain ⟨k, hk, e⟩ := map_eq_ok.mp ht
    cases e
    exact ⟨p.1, hp, hk⟩
  · rintro ⟨m, hp, ht⟩
    exact ⟨(m, h), hp, by rw [ht]; rfl⟩

end Psec.Tr31
