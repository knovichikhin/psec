import PsecModel.Lemmas.Method
/-! Everything a successful `KeyBlock.wrap` tells, for all four versions at once. -/
namespace Psec.Tr31

theorem algoMax_cases (alg : PyStr) : (∃ v, ∀ d, algoMaxKeyLen alg d = v) ∨ (∀ d, algoMaxKeyLen alg d = d) := by
  unfold algoMaxKeyLen
  split
  · exact .inl ⟨24, fun _ => rfl⟩
  · split
    · exact .inl ⟨24, fun _ => rfl⟩
    · split
      · exact .inl ⟨32, fun _ => rfl⟩
      · exact .inr fun _ => rfl

theorem maskedLen_eq_max (h : Header) (mask : Option Int) (k : Nat) : maskedLen h k mask = max (maskedLen h 0 mask) k := by
  cases mask with
  | none =>
    simp only [maskedLen]
    rcases algoMax_cases h.algorithm with ⟨v, hv⟩ | hd
    · rw [hv, hv]; omega
    · rw [hd, hd]; omega
  | some m => simp only [maskedLen]; omega

theorem maskedLen_ge (h : Header) (k : Nat) (mask : Option Int) : k ≤ maskedLen h k mask :=
  maskedLen_eq_max h mask k ▸ Nat.le_max_right _ _

/-- the clear key data recovered from the two binary sections, per version -/
def recoverDispatch (c : Ciphers) (ver : PyStr) (kbpk : Bytes) (hdr : PyStr) (enc mac : Bytes) : Bytes :=
  if ver == [66] then bRecover c kbpk enc mac
  else if ver == [68] then dRecover c kbpk enc mac
  else cRecover c kbpk hdr enc mac

theorem recoverDispatch_eq (c : Ciphers) (ver : PyStr) (kbpk : Bytes) (hdr : PyStr) (enc mac : Bytes) :
    recoverDispatch c ver kbpk hdr enc mac = (methodOf c ver).recover kbpk hdr enc mac := by
  unfold recoverDispatch methodOf
  split
  · rfl
  · split <;> rfl

/-- `hdr`, `enc`, `mac` are the three sections of the key block `s`, `clear` the clear key data they were made from -/
structure WrapFacts (c : Ciphers) (kb : KB) (key : Bytes) (mask : Option Int) (entropy : Bytes) (s : PyStr) : Prop where
  facts : ∃ bs ml n blocks hdr enc mac clear,
    algoBs kb.header.versionId = some bs ∧ macLen kb.header.versionId = some ml ∧ (bs = 8 ∨ bs = 16) ∧
    blocksDump kb.header.blocks bs = .ok (n, blocks) ∧
    hdr = kb.header.assemble (16 + blocks.length + 2 * enc.length + 2 * ml) n blocks ∧
    16 + blocks.length + 2 * enc.length + 2 * ml ≤ 9999 ∧
    s = hdr ++ toHexU enc ++ toHexU mac ∧
    enc.length = 2 + maskedLen kb.header key.length mask + (bs - (2 + maskedLen kb.header key.length mask) % bs) ∧
    mac.length = ml ∧ clearKeyData key entropy = .ok clear ∧
    entropy.length = (bs - (2 + maskedLen kb.header key.length mask) % bs) + (maskedLen kb.header key.length mask - key.length) ∧
    unwrapDispatch c kb.header.versionId kb.kbpk hdr enc mac = extractKey clear ∧
    recoverDispatch c kb.header.versionId kb.kbpk hdr enc mac = clear

theorem wrap_eq (c : Ciphers) (kb : KB) (key : Bytes) (mask : Option Int) (entropy : Bytes) :
    kb.wrap c key mask entropy =
      if ¬ versionOk kb.header.versionId then .error .keyblock else
      kb.header.dump (maskedLen kb.header key.length mask) >>= fun hdr =>
        (methodOf c kb.header.versionId).wrap kb.kbpk hdr key (maskedLen kb.header key.length mask - key.length) entropy := by
  unfold KB.wrap
  split; · rfl
  simp only [wrapDispatch_eq]
  cases kb.header.dump (maskedLen kb.header key.length mask) <;> rfl

theorem wrap_facts (c : Ciphers) (hc : c.Lawful) (kb : KB) (key : Bytes) (mask : Option Int) (entropy : Bytes) (s : PyStr)
    (h : kb.wrap c key mask entropy = .ok s) : WrapFacts c kb key mask entropy s := by
  rw [wrap_eq] at h
  split at h; · cases h
  rename_i hv
  obtain ⟨hbs, hml⟩ := methodOf_algo c _ (Decidable.not_not.mp hv)
  generalize hm : maskedLen kb.header key.length mask = m at h ⊢
  have hmge : key.length ≤ m := hm ▸ maskedLen_ge _ _ _
  obtain ⟨hdr, hd, h⟩ := bind_eq_ok.mp h
  obtain ⟨n, blocks, hbd, hle, hhdr⟩ := dump_ok hbs hml hd
  obtain ⟨-, clear, enc, mac, hcl, hent, hel, hmac, hs, hun, hrec⟩ :=
    Method.wrap_ok (methodOf_sound c hc _) (by have := algoBs_cases _ _ hbs; omega) _ _ _ _ _ _ h
  rw [show 2 + key.length + (m - key.length) = 2 + m by omega] at hent
  have henc : enc.length = 2 + m + ((methodOf c kb.header.versionId).bs - (2 + m) % (methodOf c kb.header.versionId).bs) := by
    rw [hel, (clear_len key entropy clear hcl).1, hent]; omega
  refine ⟨_, _, n, blocks, hdr, enc, mac, clear, hbs, hml, algoBs_cases _ _ hbs, hbd, ?_, ?_, hs, hm ▸ henc, hmac, hcl,
    hm ▸ hent, (unwrapDispatch_eq ..).trans hun, (recoverDispatch_eq ..).trans hrec⟩
  · rw [hhdr, henc]; congr 1; omega
  · rw [henc]; omega

end Psec.Tr31
