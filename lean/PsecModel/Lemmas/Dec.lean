import PsecModel.Py
/-! Decimal length fields: `str(n).zfill(4)` / `.zfill(2)` and `int(...)` round trips; the ASCII classes of
`psec.tools`: inclusions, `++`, `ljust` / `rjust`. -/
namespace Psec

def dec4s (n : Nat) : PyStr := [48 + n / 1000 % 10, 48 + n / 100 % 10, 48 + n / 10 % 10, 48 + n % 10]
def dec2s (n : Nat) : PyStr := [48 + n / 10 % 10, 48 + n % 10]

theorem natToDecAux_eq (n : Nat) : ∀ f acc, n < f → natToDecAux f n acc = natToDec n ++ acc := by
  induction n using Nat.strongRecOn with
  | _ n ih =>
    intro f acc hf
    obtain ⟨f, rfl⟩ : ∃ g, f = g + 1 := ⟨f - 1, by omega⟩
    unfold natToDec natToDecAux
    split
    · rfl
    · rw [ih (n / 10) (by omega) f _ (by omega), ih (n / 10) (by omega) n _ (by omega)]
      simp

theorem natToDec_digit (n : Nat) (h : n < 10) : natToDec n = [48 + n] := by
  simp [natToDec, natToDecAux, h]

theorem natToDec_step (n : Nat) (h : 10 ≤ n) : natToDec n = natToDec (n / 10) ++ [48 + n % 10] := by
  rw [natToDec, natToDecAux, if_neg (by omega), natToDecAux_eq _ _ _ (by omega)]

theorem natToDec_last (n : Nat) : lastN (natToDec n) 1 = [48 + n % 10] := by
  by_cases h : n < 10
  · rw [natToDec_digit n h, Nat.mod_eq_of_lt h]; rfl
  · rw [natToDec_step n (by omega)]; simp [lastN]

theorem zfill_natToDec_succ (w n : Nat) (hw : 0 < w) :
    zfill (w + 1) (natToDec n) = zfill w (natToDec (n / 10)) ++ [48 + n % 10] := by
  by_cases h : n < 10
  · rw [natToDec_digit n h, natToDec_digit (n / 10) (by omega), Nat.mod_eq_of_lt h, Nat.div_eq_of_lt h]
    obtain ⟨w, rfl⟩ : ∃ v, w = v + 1 := ⟨w - 1, by omega⟩
    simp [zfill, List.replicate_succ']
  · rw [natToDec_step n (by omega)]
    simp [zfill]

theorem zfill4_eq (n : Nat) (h : n ≤ 9999) : zfill 4 (natToDec n) = dec4s n := by
  rw [zfill_natToDec_succ 3 n (by decide), zfill_natToDec_succ 2 _ (by decide), zfill_natToDec_succ 1 _ (by decide),
    natToDec_digit _ (by omega)]
  simp only [zfill, dec4s, List.length_singleton, Nat.sub_self, List.replicate_zero, List.nil_append, List.cons_append,
    Nat.div_div_eq_div_mul]
  rw [Nat.mod_eq_of_lt (by omega : n / 1000 < 10)]

theorem zfill2_eq (n : Nat) (h : n ≤ 99) : zfill 2 (natToDec n) = dec2s n := by
  rw [zfill_natToDec_succ 1 n (by decide), natToDec_digit _ (by omega)]
  simp only [zfill, dec2s, List.length_singleton, Nat.sub_self, List.replicate_zero, List.nil_append, List.cons_append]
  rw [Nat.mod_eq_of_lt (by omega : n / 10 < 10)]

theorem decVal_snoc (s : PyStr) (d : Nat) : decVal (s ++ [48 + d]) = decVal s * 10 + d := by
  simp [decVal, List.foldl_append]

theorem decVal_natToDec (n : Nat) : decVal (natToDec n) = n := by
  induction n using Nat.strongRecOn with
  | _ n ih =>
    by_cases h : n < 10
    · rw [natToDec_digit n h]; simp [decVal]
    · rw [natToDec_step n (by omega), decVal_snoc, ih _ (by omega)]; omega

theorem decVal_zfill (w : Nat) (s : PyStr) : decVal (zfill w s) = decVal s := by
  unfold zfill
  induction (w - s.length) with
  | zero => rfl
  | succ k ih => rw [List.replicate_succ, List.cons_append, decVal, List.foldl_cons]; exact ih

theorem decVal_dec4s (n : Nat) (h : n ≤ 9999) : decVal (dec4s n) = n := by
  rw [← zfill4_eq n h, decVal_zfill, decVal_natToDec]

theorem decVal_dec2s (n : Nat) (h : n ≤ 99) : decVal (dec2s n) = n := by
  rw [← zfill2_eq n h, decVal_zfill, decVal_natToDec]

theorem dec4s_numeric (n : Nat) : asciiNumeric (dec4s n) = true := by
  simp only [asciiNumeric, dec4s, List.all_cons, List.all_nil, isDigitC, Bool.and_true, Bool.and_eq_true, decide_eq_true_eq]
  omega

theorem dec2s_numeric (n : Nat) : asciiNumeric (dec2s n) = true := by
  simp only [asciiNumeric, dec2s, List.all_cons, List.all_nil, isDigitC, Bool.and_true, Bool.and_eq_true, decide_eq_true_eq]
  omega

@[simp] theorem dec4s_length (n : Nat) : (dec4s n).length = 4 := rfl
@[simp] theorem dec2s_length (n : Nat) : (dec2s n).length = 2 := rfl

theorem numeric_alnum {s : PyStr} (h : asciiNumeric s = true) : asciiAlnum s = true := by
  simp only [asciiNumeric, asciiAlnum, List.all_eq_true] at h ⊢
  intro x hx; simp [isAlnumC, h x hx]

theorem alnum_printable {s : PyStr} (h : asciiAlnum s = true) : asciiPrintable s = true := by
  simp only [asciiPrintable, asciiAlnum, List.all_eq_true] at h ⊢
  intro x hx
  have := h x hx
  simp only [isAlnumC, isDigitC, isUpperC, isLowerC, Bool.or_eq_true, Bool.and_eq_true, decide_eq_true_eq] at this
  simp only [isPrintC, Bool.and_eq_true, decide_eq_true_eq]
  omega

theorem hexchar_printable {s : PyStr} (h : asciiHexchar s = true) : asciiPrintable s = true := by
  simp only [asciiHexchar, asciiPrintable, List.all_eq_true] at h ⊢
  intro x hx
  have := h x hx
  simp only [isHexC, isDigitC, Bool.or_eq_true, Bool.and_eq_true, decide_eq_true_eq] at this
  simp only [isPrintC, Bool.and_eq_true, decide_eq_true_eq]; omega

theorem printable_ascii (s : PyStr) (h : asciiPrintable s = true) : s.all (· < 128) = true := by
  simp only [asciiPrintable, List.all_eq_true] at h ⊢
  intro x hx
  have := h x hx
  simp only [isPrintC, Bool.and_eq_true, decide_eq_true_eq] at this
  simp; omega

theorem asciiPrintable_append (a b : PyStr) : asciiPrintable (a ++ b) = (asciiPrintable a && asciiPrintable b) := by
  simp [asciiPrintable, List.all_append]

theorem asciiAlnum_append (a b : PyStr) : asciiAlnum (a ++ b) = (asciiAlnum a && asciiAlnum b) := by
  simp [asciiAlnum, List.all_append]

theorem asciiNumeric_iff (s : PyStr) : asciiNumeric s = true ↔ ∀ c ∈ s, 48 ≤ c ∧ c ≤ 57 := by
  simp [asciiNumeric, isDigitC]

theorem asciiNumeric_append (a b : PyStr) : asciiNumeric (a ++ b) = (asciiNumeric a && asciiNumeric b) := by
  simp [asciiNumeric, List.all_append]

theorem asciiNumeric_take (s : PyStr) (n : Nat) (h : asciiNumeric s = true) : asciiNumeric (s.take n) = true :=
  List.all_eq_true.mpr fun x hx => List.all_eq_true.mp h x (List.mem_of_mem_take hx)

theorem asciiNumeric_drop (s : PyStr) (n : Nat) (h : asciiNumeric s = true) : asciiNumeric (s.drop n) = true :=
  List.all_eq_true.mpr fun x hx => List.all_eq_true.mp h x (List.mem_of_mem_drop hx)

theorem asciiNumeric_replicate (n : Nat) : asciiNumeric (List.replicate n 48) = true := by
  simp [asciiNumeric, isDigitC]

theorem asciiNumeric_hexchar {s : PyStr} (h : asciiNumeric s = true) : asciiHexchar s = true := by
  simp only [asciiNumeric, asciiHexchar, List.all_eq_true] at h ⊢
  intro x hx; simp [isHexC, h x hx]

theorem asciiHexchar_append (a b : PyStr) : asciiHexchar (a ++ b) = (asciiHexchar a && asciiHexchar b) := by
  simp [asciiHexchar, List.all_append]

theorem asciiHexchar_replicate (n c : Nat) (h : isHexC c = true) : asciiHexchar (List.replicate n c) = true := by
  simp [asciiHexchar, List.all_replicate, h]

theorem ljust_length (w c : Nat) (s : PyStr) : (ljust w c s).length = s.length + (w - s.length) := by simp [ljust]

theorem rjust_length (w c : Nat) (s : PyStr) : (rjust w c s).length = w - s.length + s.length := by simp [rjust]

theorem asciiNumeric_ljust (w : Nat) (s : PyStr) : asciiNumeric (ljust w 48 s) = asciiNumeric s := by
  rw [ljust, asciiNumeric_append, asciiNumeric_replicate, Bool.and_true]

theorem asciiNumeric_rjust (w : Nat) (s : PyStr) : asciiNumeric (rjust w 48 s) = asciiNumeric s := by
  rw [rjust, asciiNumeric_append, asciiNumeric_replicate, Bool.true_and]

end Psec
