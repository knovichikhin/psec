import PsecModel.Generated.Effects
/-! C19's scope obligation over the regenerated effect summary: see `Conc.scopeClean`. -/
namespace Psec.Scope.C19
open Psec.Conc Psec.Generated

theorem scope_clean : scopeClean byModule writesByModule moduleImports ["des", "aes"] = true := by decide +kernel

end Psec.Scope.C19
