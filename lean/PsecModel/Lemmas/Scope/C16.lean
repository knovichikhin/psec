import PsecModel.Generated.Effects
/-! C16's scope obligation over the regenerated effect summary: see `Conc.scopeClean`. -/
namespace Psec.Scope.C16
open Psec.Conc Psec.Generated

theorem scope_clean : scopeClean byModule writesByModule moduleImports ["pinblock", "cvv", "pin", "mac", "des", "aes", "tools"] = true := by decide +kernel

end Psec.Scope.C16
