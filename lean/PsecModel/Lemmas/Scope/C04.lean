import PsecModel.Generated.Effects
/-! C04's scope obligation over the regenerated effect summary: see `Conc.scopeClean`. -/
namespace Psec.Scope.C04
open Psec.Conc Psec.Generated

theorem scope_clean : scopeClean byModule writesByModule moduleImports ["pinblock"] = true := by decide +kernel

end Psec.Scope.C04
