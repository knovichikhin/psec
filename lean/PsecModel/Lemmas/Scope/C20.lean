import PsecModel.Generated.Effects
/-! C20's scope obligation over the regenerated effect summary: see `Conc.scopeClean`. -/
namespace Psec.Scope.C20
open Psec.Conc Psec.Generated

theorem scope_clean : scopeClean byModule writesByModule moduleImports ["des", "tools"] = true := by decide +kernel

end Psec.Scope.C20
