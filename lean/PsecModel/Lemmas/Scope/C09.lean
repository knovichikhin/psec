import PsecModel.Generated.Effects
/-! C09's scope obligation over the regenerated effect summary: see `Conc.scopeClean`. -/
namespace Psec.Scope.C09
open Psec.Conc Psec.Generated

theorem scope_clean : scopeClean byModule writesByModule moduleImports ["cvv"] = true := by decide +kernel

end Psec.Scope.C09
