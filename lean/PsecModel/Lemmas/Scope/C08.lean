import PsecModel.Lemmas.Scope.C07
/-! C08's scope obligation over the regenerated effect summary: see `Conc.scopeClean`. -/
namespace Psec.Scope.C08
open Psec.Conc Psec.Generated

theorem scope_clean : scopeClean byModule writesByModule moduleImports ["mac"] = true := C07.scope_clean

end Psec.Scope.C08
