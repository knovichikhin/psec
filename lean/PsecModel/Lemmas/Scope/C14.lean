import PsecModel.Generated.Effects
/-! C14's scope obligation over the regenerated effect summary: see `Conc.scopeClean`. -/
namespace Psec.Scope.C14
open Psec.Conc Psec.Generated

theorem scope_clean : scopeClean byModule writesByModule moduleImports ["tr31", "pinblock"] = true := by decide +kernel

end Psec.Scope.C14
