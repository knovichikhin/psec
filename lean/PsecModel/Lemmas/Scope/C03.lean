import PsecModel.Lemmas.Scope.C01
/-! C03's scope obligation over the regenerated effect summary: see `Conc.scopeClean`. -/
namespace Psec.Scope.C03
open Psec.Conc Psec.Generated

theorem scope_clean : scopeClean byModule writesByModule moduleImports ["tr31"] = true := C01.scope_clean

end Psec.Scope.C03
