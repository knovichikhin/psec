import PsecModel.Lemmas.Scope.C04
/-! C05's scope obligation over the regenerated effect summary: see `Conc.scopeClean`. -/
namespace Psec.Scope.C05
open Psec.Conc Psec.Generated

theorem scope_clean : scopeClean byModule writesByModule moduleImports ["pinblock"] = true := C04.scope_clean

end Psec.Scope.C05
