import PsecModel.Lemmas.Scope.C10
/-! C11's scope obligation over the regenerated effect summary: see `Conc.scopeClean`. -/
namespace Psec.Scope.C11
open Psec.Conc Psec.Generated

theorem scope_clean : scopeClean byModule writesByModule moduleImports ["pin"] = true := C10.scope_clean

end Psec.Scope.C11
