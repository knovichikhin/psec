import PsecModel.Generated.Effects
/-! C10's scope obligation over the regenerated effect summary: see `Conc.scopeClean`. -/
namespace Psec.Scope.C10
open Psec.Conc Psec.Generated

theorem scope_clean : scopeClean byModule writesByModule moduleImports ["pin"] = true := by decide +kernel

end Psec.Scope.C10
