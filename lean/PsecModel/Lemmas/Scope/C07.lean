import PsecModel.Generated.Effects
/-! C07's scope obligation over the regenerated effect summary: see `Conc.scopeClean`. -/
namespace Psec.Scope.C07
open Psec.Conc Psec.Generated

theorem scope_clean : scopeClean byModule writesByModule moduleImports ["mac"] = true := by decide +kernel

end Psec.Scope.C07
