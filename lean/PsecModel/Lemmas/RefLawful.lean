import PsecModel.Lemmas.DesLawful
import PsecModel.Lemmas.AesLawful
/-!
# `refCiphers.Lawful` — the hypothesis carried by the `(hc)` theorems is satisfiable, and holds for the ciphers the driver runs
-/
namespace Psec

theorem refCiphers_lawful : refCiphers.Lawful where
  tdes_dec_enc := fun k b _ hb => (refTdes_laws k b hb).1
  tdes_enc_dec := fun k b _ hb => (refTdes_laws k b hb).2.1
  tdes_enc_len := fun k b _ hb => (refTdes_laws k b hb).2.2.1
  tdes_dec_len := fun k b _ hb => (refTdes_laws k b hb).2.2.2
  aes_dec_enc := fun k b hk hb => (refAes_laws k b hk hb).1
  aes_enc_dec := fun k b hk hb => (refAes_laws k b hk hb).2.1
  aes_enc_len := fun k b hk hb => (refAes_laws k b hk hb).2.2.1
  aes_dec_len := fun k b hk hb => (refAes_laws k b hk hb).2.2.2

end Psec
