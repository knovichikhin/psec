import PsecModel.Model.Tools
/-! `tools.xor`, which goes through little-endian integers, is byte-wise XOR with the mask truncated or zero-extended (`xorBytes`);
the algebra of `xorBytes`. -/
namespace Psec

theorem fromLE_lt (b : Bytes) : fromLE b < 256 ^ b.length := by
  induction b with
  | nil => simp [fromLE]
  | cons a r ih =>
    simp only [fromLE, List.length_cons, Nat.pow_succ]
    have := a.toNat_lt
    omega

theorem xor_two_pow (k a b x y : Nat) (ha : a < 2 ^ k) (hb : b < 2 ^ k) :
    (2 ^ k * x + a) ^^^ (2 ^ k * y + b) = 2 ^ k * (x ^^^ y) + (a ^^^ b) := by
  apply Nat.eq_of_testBit_eq
  intro i
  rw [Nat.testBit_xor, Nat.testBit_two_pow_mul_add _ ha, Nat.testBit_two_pow_mul_add _ hb,
    Nat.testBit_two_pow_mul_add _ (Nat.xor_lt_two_pow ha hb)]
  split <;> simp [Nat.testBit_xor]

theorem xor_step (a b x y : Nat) (ha : a < 256) (hb : b < 256) :
    (a + 256 * x) ^^^ (b + 256 * y) = (a ^^^ b) + 256 * (x ^^^ y) := by
  rw [Nat.add_comm a, Nat.add_comm b, Nat.add_comm (a ^^^ b)]
  exact xor_two_pow 8 a b x y ha hb

theorem toLE_cons (n a x : Nat) (ha : a < 256) : toLE (n+1) (a + 256 * x) = UInt8.ofNat a :: toLE n x := by
  rw [toLE, Nat.add_mul_mod_self_left, Nat.mod_eq_of_lt ha, Nat.add_mul_div_left _ _ (by decide), Nat.div_eq_of_lt ha,
    Nat.zero_add]

theorem toLE_fromLE (ds : Bytes) : toLE ds.length (fromLE ds) = ds := by
  induction ds with
  | nil => rfl
  | cons d r ih =>
    simp only [fromLE, List.length_cons]
    rw [toLE_cons _ _ _ d.toNat_lt, ih]; simp

@[simp] theorem xorBytes_length (a b : Bytes) : (xorBytes a b).length = a.length := by
  induction a generalizing b with
  | nil => simp [xorBytes]
  | cons x xs ih => cases b <;> simp [xorBytes, ih]

@[simp] theorem xorBytes_nil_right (a : Bytes) : xorBytes a [] = a := by
  induction a with
  | nil => rfl
  | cons x xs ih => simp [xorBytes, ih]

@[simp] theorem xorBytes_nil_left (b : Bytes) : xorBytes [] b = [] := by simp [xorBytes]

theorem Tools.xor_eq (data key : Bytes) : Tools.xor data key = xorBytes data key := by
  unfold Tools.xor
  induction data generalizing key with
  | nil => simp [toLE, xorBytes]
  | cons d ds ih =>
    cases key with
    | nil => simpa [fromLE] using toLE_fromLE (d :: ds)
    | cons k ks =>
      simp only [List.length_cons, List.take_succ_cons, fromLE, xorBytes]
      rw [xor_step _ _ _ _ d.toNat_lt k.toNat_lt, toLE_cons _ _ _ (Nat.xor_lt_two_pow (n := 8) d.toNat_lt k.toNat_lt), ih ks]
      congr 1
      apply UInt8.toNat_inj.mp
      simp [UInt8.toNat_xor]

theorem xorBytes_cancel (a b : Bytes) : xorBytes (xorBytes a b) b = a := by
  induction a generalizing b with
  | nil => simp [xorBytes]
  | cons x xs ih =>
    cases b with
    | nil => simp
    | cons y ys =>
      simp only [xorBytes, ih ys]
      rw [UInt8.xor_assoc, UInt8.xor_self, UInt8.xor_zero]

theorem xorBytes_self (a : Bytes) : xorBytes a a = List.replicate a.length 0 := by
  induction a with
  | nil => rfl
  | cons x xs ih => simp [xorBytes, ih, List.replicate_succ]

theorem xorBytes_zeros (a : Bytes) (n : Nat) : xorBytes a (List.replicate n 0) = a := by
  induction a generalizing n with
  | nil => simp
  | cons x xs ih =>
    cases n with
    | zero => simp
    | succ n => simp [List.replicate_succ, xorBytes, ih]

theorem xorBytes_comm (a b : Bytes) (h : a.length = b.length) : xorBytes a b = xorBytes b a := by
  induction a generalizing b with
  | nil => cases b <;> simp_all [xorBytes]
  | cons x xs ih =>
    cases b with
    | nil => simp at h
    | cons y ys => simp only [xorBytes, UInt8.xor_comm x y]; rw [ih ys (by simpa using h)]

theorem xorBytes_getElem (a b : Bytes) (i : Nat) (h : i < a.length) :
    (xorBytes a b)[i]'(by simpa using h) = if h2 : i < b.length then a[i] ^^^ b[i] else a[i] := by
  induction a generalizing b i with
  | nil => simp at h
  | cons x xs ih =>
    cases b with
    | nil => simp
    | cons y ys =>
      cases i with
      | zero => simp [xorBytes]
      | succ i =>
        simp only [xorBytes, List.getElem_cons_succ, List.length_cons, Nat.add_lt_add_iff_right]
        exact ih ys i (by simpa using h)

theorem xorBytes_take (a b : Bytes) : xorBytes a (b.take a.length) = xorBytes a b := by
  induction a generalizing b with
  | nil => simp
  | cons x xs ih => cases b with
    | nil => simp
    | cons y ys => simp [xorBytes, ih]

theorem xorBytes_append (a1 a2 b1 b2 : Bytes) (h : a1.length = b1.length) :
    xorBytes (a1 ++ a2) (b1 ++ b2) = xorBytes a1 b1 ++ xorBytes a2 b2 := by
  induction a1 generalizing b1 with
  | nil => cases b1 <;> simp_all
  | cons x xs ih =>
    cases b1 with
    | nil => simp at h
    | cons y ys => simp only [List.cons_append, xorBytes]; rw [ih ys (by simpa using h)]

theorem uint8_xor_cancel (a p q : UInt8) (h : (a ^^^ p) ^^^ q = a) : p = q :=
  UInt8.xor_eq_zero_iff.mp ((UInt8.xor_right_inj a).mp (by rw [← UInt8.xor_assoc, h, UInt8.xor_zero]))

theorem xorBytes_mask_unique : ∀ (a p q : Bytes), a.length = p.length → a.length = q.length →
    xorBytes (xorBytes a p) q = a → p = q
  | [], [], [], _, _, _ => rfl
  | [], _ :: _, _, h, _, _ => by simp at h
  | [], [], _ :: _, _, h, _ => by simp at h
  | _ :: _, [], _, h, _, _ => by simp at h
  | _ :: _, _ :: _, [], _, h, _ => by simp at h
  | a :: as, p :: ps, q :: qs, h1, h2, h => by
    simp only [xorBytes, List.cons.injEq] at h
    rw [uint8_xor_cancel a p q h.1, xorBytes_mask_unique as ps qs (by simpa using h1) (by simpa using h2) h.2]

theorem xorBytes_const (l : Bytes) (v : UInt8) : xorBytes l (List.replicate l.length v) = l.map (· ^^^ v) := by
  induction l with
  | nil => rfl
  | cons x r ih => simp [List.replicate_succ, xorBytes, ih]

end Psec
