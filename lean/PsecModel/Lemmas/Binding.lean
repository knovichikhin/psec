import PsecModel.Lemmas.Kdf
/-! C03 step by step: for every lawful cipher, each cryptographic step of psec's binding is the specification's. -/
namespace Psec.Props.C03
open Psec.Tr31 Psec.Spec

theorem encodeAscii_eq (hdr : PyStr) (hb : Bytes) (h : encodeAscii hdr = some hb) : hb = Spec.TR31.asciiBytes hdr := by
  unfold encodeAscii at h
  split at h
  · injection h with h; exact h.symm
  · cases h

/-- version B: psec's CMAC construction is SP 800-38B CMAC with TDES over `ascii(header) ‖ clear key data` -/
theorem bMac_eq_tag (c : Ciphers) (hc : c.Lawful) (kbak : Bytes) (hdr : PyStr) (hb clear : Bytes)
    (hk : tdesKeyOk kbak = true) (hea : encodeAscii hdr = some hb)
    (hlen : 8 ≤ (hb ++ clear).length) (hmod : (hb ++ clear).length % 8 = 0) (enc : Bytes) :
    bGenerateMac c kbak hdr clear = .ok (Spec.TR31.tag c 66 kbak hdr clear enc) := by
  rw [bGenerateMac_eq_cmac c hc kbak hdr hb clear hk hea hlen hmod, encodeAscii_eq hdr hb hea]
  rfl

/-- version D: the same with AES-CMAC -/
theorem dMac_eq_tag (c : Ciphers) (hc : c.Lawful) (kbak : Bytes) (hdr : PyStr) (hb clear : Bytes)
    (hk : aesKeyOk kbak = true) (hea : encodeAscii hdr = some hb)
    (hlen : 16 ≤ (hb ++ clear).length) (hmod : (hb ++ clear).length % 16 = 0) (enc : Bytes) :
    dGenerateMac c kbak hdr clear = .ok (Spec.TR31.tag c 68 kbak hdr clear enc) := by
  rw [dGenerateMac_eq_cmac c hc kbak hdr hb clear hk hea hlen hmod, encodeAscii_eq hdr hb hea]
  rfl

/-- versions A and C: 4-byte TDES CBC-MAC over `ascii(header) ‖ encrypted key data` -/
theorem cMac_eq_tag (c : Ciphers) (hc : c.Lawful) (kbak : Bytes) (hdr : PyStr) (hb enc : Bytes) (ver : Nat)
    (h1 : ver ≠ 66) (h2 : ver ≠ 68) (hk : tdesKeyOk kbak = true) (hea : encodeAscii hdr = some hb) (clear : Bytes) :
    cGenerateMac c kbak hdr enc = .ok (Spec.TR31.tag c ver kbak hdr clear enc) := by
  unfold cGenerateMac Spec.TR31.tag
  rw [hea]; simp only [h1, h2, if_false]
  rw [encodeAscii_eq hdr hb hea]
  exact Props.C07.cbcMac_des_eq_mac1 c hc kbak _ 1 4 _ (Or.inr rfl) hk (Or.inl rfl) nofun

/-- psec derives the specification's keys: versions B, D (TR-31 KDF) and A, C (variants) -/
theorem deriveB_eq_kdf (c : Ciphers) (hc : c.Lawful) (kbpk : Bytes) (hk : kbpk.length = 16 ∨ kbpk.length = 24) :
    bDerive c kbpk = .ok (Spec.TR31.deriveKeys c 66 kbpk) := bDerive_eq_kdf c hc kbpk hk
theorem deriveD_eq_kdf (c : Ciphers) (hc : c.Lawful) (kbpk : Bytes) (hk : kbpk.length = 16 ∨ kbpk.length = 24 ∨ kbpk.length = 32) :
    dDerive c kbpk = .ok (Spec.TR31.deriveKeys c 68 kbpk) := dDerive_eq_kdf c hc kbpk hk
theorem deriveAC_eq_variant (c : Ciphers) (kbpk : Bytes) :
    cDerive kbpk = Spec.TR31.deriveKeys c 65 kbpk ∧ cDerive kbpk = Spec.TR31.deriveKeys c 67 kbpk :=
  ⟨cDerive_eq_variant c kbpk 65 (by decide) (by decide), cDerive_eq_variant c kbpk 67 (by decide) (by decide)⟩

/-- the CMAC subkeys (`K1`, `K2`) psec derives through integer shifts are the standard's `L·x`, `L·x²` -/
theorem subkeys_eq (c : Ciphers) (hc : c.Lawful) (key : Bytes) :
    (tdesKeyOk key = true → desCmacSubkey c key = .ok (dbl 0x1B (c.tdesE key (zeros 8)), dbl 0x1B (dbl 0x1B (c.tdesE key (zeros 8))))) ∧
    (aesKeyOk key = true → aesCmacSubkey c key = .ok (dbl 0x87 (c.aesE key (zeros 16)), dbl 0x87 (dbl 0x87 (c.aesE key (zeros 16))))) :=
  ⟨subkey_des c hc key, subkey_aes c hc key⟩

end Psec.Props.C03
