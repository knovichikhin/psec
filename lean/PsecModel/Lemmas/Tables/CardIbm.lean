import PsecModel.Lemmas.Tables.Lift
import PsecModel.Model.Card
/-! The IBM 3624 alphabet of `psec/pin.py`. -/
namespace Psec.Tables
open Psec.Generated.Tables

/-- Every `str.maketrans(<alphabet>, conversion_table)` in `pin.py` has a sixteen-character alphabet whose position `v` holds a
hexadecimal digit of value `v`, which is what lets the model index the conversion table by `hexVal`. Either case passes: the text
that is translated decides which is needed, and the correspondence check sees a wrong one on the first letter. -/
theorem ibm_alphabet_agree : ∀ l, ibm_maketrans_from = some l →
    l.all (fun a => a.length == 16 && (List.range 16).all (fun v => hexVal (a.getD v 0) == some v)) = true :=
  of_all_some (by decide +kernel)

end Psec.Tables
