import PsecModel.Lemmas.Tables.Lift
import PsecModel.Py
/-! The model's character classes are the sets written in `psec/tools.py` (regenerated on every run). -/
namespace Psec.Tables
open Psec.Generated.Tables

theorem ascii_n_agree : ∀ l, tools_ascii_n = some l → ∀ c, isDigitC c = l.contains c :=
  class_agree_some _ _ (by intro c h; simp [isDigitC]; omega) (by decide +kernel)

theorem ascii_an_agree : ∀ l, tools_ascii_an = some l → ∀ c, isAlnumC c = l.contains c :=
  class_agree_some _ _ (by intro c h; simp [isAlnumC, isDigitC, isUpperC, isLowerC]; omega) (by decide +kernel)

theorem ascii_pa_agree : ∀ l, tools_ascii_pa = some l → ∀ c, isPrintC c = l.contains c :=
  class_agree_some _ _ (by intro c h; simp [isPrintC]; omega) (by decide +kernel)

theorem ascii_h_agree : ∀ l, tools_ascii_h = some l → ∀ c, isHexC c = l.contains c :=
  class_agree_some _ _ (by intro c h; simp [isHexC, isDigitC]; omega) (by decide +kernel)

/-- the four `tools.ascii_*` predicates of the model are "every character is in the source's set" -/
theorem ascii_predicates (s : PyStr) :
    (∀ l, tools_ascii_n = some l → asciiNumeric s = s.all l.contains) ∧
    (∀ l, tools_ascii_an = some l → asciiAlnum s = s.all l.contains) ∧
    (∀ l, tools_ascii_pa = some l → asciiPrintable s = s.all l.contains) ∧
    (∀ l, tools_ascii_h = some l → asciiHexchar s = s.all l.contains) := by
  refine ⟨?_, ?_, ?_, ?_⟩
  · intro l h; unfold asciiNumeric; congr 1; funext c; exact ascii_n_agree l h c
  · intro l h; unfold asciiAlnum; congr 1; funext c; exact ascii_an_agree l h c
  · intro l h; unfold asciiPrintable; congr 1; funext c; exact ascii_pa_agree l h c
  · intro l h; unfold asciiHexchar; congr 1; funext c; exact ascii_h_agree l h c

end Psec.Tables
