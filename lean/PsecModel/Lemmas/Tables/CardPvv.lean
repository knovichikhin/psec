import PsecModel.Lemmas.Tables.Card
/-! The model's second-pass decimalisation is `str.translate` by the table written in `psec/pin.py` (`generate_visa_pvv`). -/
namespace Psec.Tables
open Psec.Generated.Tables

theorem pvv_translate_agree : ∀ tbl, pvv_translate = some tbl →
    ∀ c, Card.isAFlower c = true → translate1 tbl c = c - 49 :=
  translate_agree _ (by decide +kernel)

theorem pvv_decimalize_by_table (hex : PyStr) (n : Nat) :
    ∀ tbl, pvv_translate = some tbl → Card.decimalize hex n =
      (let d := (hex.filter Card.isDecC).take n
       if d.length < n then d ++ ((hex.filter Card.isAFlower).take (n - d.length)).map (translate1 tbl) else d) :=
  fun tbl h => decimalize_by tbl (pvv_translate_agree tbl h) hex n

end Psec.Tables
