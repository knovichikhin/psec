import PsecModel.Lemmas.Tables.Lift
import PsecModel.Model.Card
/-! What the second-pass decimalisation of `psec/cvv.py` and `psec/pin.py` needs of its `str.translate` table (the tables themselves:
`CardCvv.lean`, `CardPvv.lean`). -/
namespace Psec.Tables

/-- what `str.translate(table)` does to one code point: mapped if listed, unchanged otherwise -/
def translate1 (tbl : List (Nat × Nat)) (c : Nat) : Nat := (tbl.lookup c).getD c

theorem translate_agree (t : Option (List (Nat × Nat)))
    (h : t.all (fun tbl => [97, 98, 99, 100, 101, 102].all (fun c => translate1 tbl c == c - 49)) = true) :
    ∀ tbl, t = some tbl → ∀ c, Card.isAFlower c = true → translate1 tbl c = c - 49 := by
  intro tbl ht c hc
  have h := of_all_some h tbl ht
  have hm : c ∈ [97, 98, 99, 100, 101, 102] := by
    simp [Card.isAFlower] at hc
    simp; omega
  exact eq_of_beq (List.all_eq_true.mp h c hm)

theorem decimalize_by (tbl : List (Nat × Nat)) (ht : ∀ c, Card.isAFlower c = true → translate1 tbl c = c - 49)
    (hex : PyStr) (n : Nat) :
    Card.decimalize hex n =
      (let d := (hex.filter Card.isDecC).take n
       if d.length < n then d ++ ((hex.filter Card.isAFlower).take (n - d.length)).map (translate1 tbl) else d) := by
  unfold Card.decimalize
  simp only
  split
  · congr 1
    apply List.map_congr_left
    intro c hc
    have hc' := (List.mem_filter.mp (List.mem_of_mem_take hc)).2
    exact (ht c hc').symm
  · rfl

end Psec.Tables
