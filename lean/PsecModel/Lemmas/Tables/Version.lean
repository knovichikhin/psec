import PsecModel.Lemmas.Tables.Lift
import PsecModel.Model.Tr31
/-! The model's per-version and per-algorithm look-ups are the tables written in `psec/tr31.py` (regenerated on every run), of which
`Header` and `KeyBlock` carry their own copies. -/
namespace Psec.Tables
open Psec.Generated.Tables

def versionKeys : List (List Nat) := [[65], [66], [67], [68]]

theorem macLen_out : ∀ v, v ∉ versionKeys → Tr31.macLen v = none := by
  intro v h
  simp [versionKeys] at h
  simp [Tr31.macLen, h]

theorem algoBs_out : ∀ v, v ∉ versionKeys → Tr31.algoBs v = none := by
  intro v h
  simp [versionKeys] at h
  simp [Tr31.algoBs, h]

theorem header_mac_len_agree : ∀ tbl, header_mac_len = some tbl → ∀ v, Tr31.macLen v = tbl.lookup v :=
  lookup_agree_some _ _ versionKeys macLen_out (by decide +kernel)
theorem keyblock_mac_len_agree : ∀ tbl, keyblock_mac_len = some tbl → ∀ v, Tr31.macLen v = tbl.lookup v :=
  lookup_agree_some _ _ versionKeys macLen_out (by decide +kernel)
theorem header_block_size_agree : ∀ tbl, header_block_size = some tbl → ∀ v, Tr31.algoBs v = tbl.lookup v :=
  lookup_agree_some _ _ versionKeys algoBs_out (by decide +kernel)
theorem keyblock_block_size_agree : ∀ tbl, keyblock_block_size = some tbl → ∀ v, Tr31.algoBs v = tbl.lookup v :=
  lookup_agree_some _ _ versionKeys algoBs_out (by decide +kernel)

def algoKeys : List (List Nat) := [[84], [68], [65]]
def algoMax? (alg : PyStr) : Option Nat :=
  if alg == [84] then some 24 else if alg == [68] then some 24 else if alg == [65] then some 32 else none

theorem algoMaxKeyLen_eq (alg : PyStr) (d : Nat) : Tr31.algoMaxKeyLen alg d = (algoMax? alg).getD d := by
  unfold Tr31.algoMaxKeyLen algoMax?
  split
  · rfl
  · split
    · rfl
    · split <;> rfl

/-- `_algo_id_max_key_len.get(algorithm, default)` -/
theorem algo_max_key_len_agree : ∀ tbl, keyblock_algo_max_key_len = some tbl →
    ∀ (alg : PyStr) (d : Nat), Tr31.algoMaxKeyLen alg d = (tbl.lookup alg).getD d := by
  intro tbl h alg d
  rw [algoMaxKeyLen_eq, lookup_agree_some algoMax? _ algoKeys
    (by intro v h; simp [algoKeys] at h; simp [algoMax?, h]) (by decide +kernel) tbl h alg]

end Psec.Tables
