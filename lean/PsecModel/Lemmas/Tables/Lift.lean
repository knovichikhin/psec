import PsecModel.Generated.Tables
/-! Lifting lemmas for `Lemmas/Tables/*`: a finite kernel check implies the statement for every key. Every generated table is an
`Option` (`none`: not recognised in the source); the `_some` forms take the check as one Boolean over the option, so that a
theorem about a table is the lemma applied to the table and `decide +kernel`. -/
namespace Psec.Tables

theorem of_all_some {α : Type} {t : Option α} {q : α → Bool} (h : t.all q = true) : ∀ l, t = some l → q l = true := by
  rintro l rfl
  exact h

theorem class_agree (p : Nat → Bool) (l : List Nat)
    (hp : ∀ c, 256 ≤ c → p c = false)
    (hl : l.all (fun x => decide (x < 256)) = true)
    (hfin : (List.range 256).all (fun c => p c == l.contains c) = true) :
    ∀ c, p c = l.contains c := by
  intro c
  by_cases h : c < 256
  · have h1 := List.all_eq_true.mp hfin c (List.mem_range.mpr h)
    exact eq_of_beq h1
  · rw [hp c (by omega)]
    cases hc : l.contains c with
    | false => rfl
    | true =>
      have hm : c ∈ l := by simpa using hc
      have := List.all_eq_true.mp hl c hm
      simp at this
      omega

/-- the finite check of `class_agree` as two inclusions, each one pass (the check as stated searches the list once per code point) -/
theorem agree_below (p : Nat → Bool) (l : List Nat) (n : Nat)
    (hl : l.all p = true) (hp : ((List.range n).filter p).all l.contains = true) :
    (List.range n).all (fun c => p c == l.contains c) = true := by
  rw [List.all_eq_true] at hl hp ⊢
  intro c hc
  cases hpc : p c with
  | true => rw [hp c (List.mem_filter.mpr ⟨hc, hpc⟩)]; rfl
  | false =>
    cases hcl : l.contains c with
    | false => rfl
    | true => rw [hl c (by simpa using hcl)] at hpc; cases hpc

theorem class_agree_some (p : Nat → Bool) (t : Option (List Nat)) (hp : ∀ c, 256 ≤ c → p c = false)
    (h : t.all (fun l => l.all (fun x => decide (x < 256)) && l.all p && ((List.range 256).filter p).all l.contains) = true) :
    ∀ l, t = some l → ∀ c, p c = l.contains c := by
  intro l hl
  have h := of_all_some h l hl
  simp only [Bool.and_eq_true] at h
  exact class_agree p l hp h.1.1 (agree_below p l 256 h.1.2 h.2)

theorem lookup_agree {β : Type} [DecidableEq β] (f : List Nat → Option β) (tbl : List (List Nat × β)) (keys : List (List Nat))
    (hout : ∀ v, v ∉ keys → f v = none)
    (hkeys : tbl.all (fun e => keys.contains e.1) = true)
    (hin : keys.all (fun k => f k == tbl.lookup k) = true) :
    ∀ v, f v = tbl.lookup v := by
  intro v
  by_cases h : v ∈ keys
  · exact eq_of_beq (List.all_eq_true.mp hin v h)
  · rw [hout v h]
    symm
    rw [List.lookup_eq_none_iff]
    intro e he
    have := List.all_eq_true.mp hkeys e he
    have hm : e.1 ∈ keys := by simpa using this
    rw [bne_iff_ne]
    intro hev
    exact h (hev ▸ hm)

theorem lookup_agree_some {β : Type} [DecidableEq β] (f : List Nat → Option β) (t : Option (List (List Nat × β)))
    (keys : List (List Nat)) (hout : ∀ v, v ∉ keys → f v = none)
    (h : t.all (fun tbl => tbl.all (fun e => keys.contains e.1) && keys.all (fun k => f k == tbl.lookup k)) = true) :
    ∀ tbl, t = some tbl → ∀ v, f v = tbl.lookup v := by
  intro tbl ht
  have h := of_all_some h tbl ht
  simp only [Bool.and_eq_true] at h
  exact lookup_agree f tbl keys hout h.1 h.2

end Psec.Tables
