import PsecModel.Lemmas.Tables.Version
/-! The model's dispatch by version is the dispatch written in `psec/tr31.py` (regenerated on every run). -/
namespace Psec.Tables
open Psec.Generated.Tables

/-! The translator does not emit the private method names (a rename is harmless); it numbers the routines in order of first
appearance over the sorted version ids, so the table says which versions share a routine: A and C (class 0), B alone (class 1),
D alone (class 2). -/

def wrapClass (v : PyStr) : Option Nat :=
  if v == [66] then some 1 else if v == [68] then some 2
  else if v == [65] then some 0 else if v == [67] then some 0 else none

theorem wrapClass_out : ∀ v, v ∉ versionKeys → wrapClass v = none := by
  intro v h
  simp [versionKeys] at h
  simp [wrapClass, h]

theorem wrap_dispatch_agree : ∀ tbl, wrap_dispatch = some tbl → ∀ v, wrapClass v = tbl.lookup v :=
  lookup_agree_some _ _ versionKeys wrapClass_out (by decide +kernel)
theorem unwrap_dispatch_agree : ∀ tbl, unwrap_dispatch = some tbl → ∀ v, wrapClass v = tbl.lookup v :=
  lookup_agree_some _ _ versionKeys wrapClass_out (by decide +kernel)

/-- the versions the source's table routes to one routine are routed to one routine by the model (A and C: the variant binding;
B: TDES CMAC; D: AES CMAC) -/
theorem wrapDispatch_by_table (tbl : List (List Nat × Nat)) (htbl : wrap_dispatch = some tbl)
    (c : Ciphers) (ver : PyStr) (kbpk : Bytes) (hdr : PyStr) (key : Bytes) (extra : Nat) (ent : Bytes)
    (hv : Tr31.versionOk ver = true) :
    Tr31.wrapDispatch c ver kbpk hdr key extra ent =
      match tbl.lookup ver with
      | some 1 => Tr31.bWrap c kbpk hdr key extra ent
      | some 2 => Tr31.dWrap c kbpk hdr key extra ent
      | some 0 => Tr31.cWrap c kbpk hdr key extra ent
      | _ => .error (.other "KeyError") := by
  rw [← wrap_dispatch_agree tbl htbl]
  simp only [Tr31.versionOk, Bool.or_eq_true, beq_iff_eq] at hv
  rcases hv with ((h | h) | h) | h <;> subst h <;> rfl

theorem unwrapDispatch_by_table (tbl : List (List Nat × Nat)) (htbl : unwrap_dispatch = some tbl)
    (c : Ciphers) (ver : PyStr) (kbpk : Bytes) (hdr : PyStr) (kd mac : Bytes)
    (hv : Tr31.versionOk ver = true) :
    Tr31.unwrapDispatch c ver kbpk hdr kd mac =
      match tbl.lookup ver with
      | some 1 => Tr31.bUnwrap c kbpk hdr kd mac
      | some 2 => Tr31.dUnwrap c kbpk hdr kd mac
      | some 0 => Tr31.cUnwrap c kbpk hdr kd mac
      | _ => .error (.other "KeyError") := by
  rw [← unwrap_dispatch_agree tbl htbl]
  simp only [Tr31.versionOk, Bool.or_eq_true, beq_iff_eq] at hv
  rcases hv with ((h | h) | h) | h <;> subst h <;> rfl

end Psec.Tables
