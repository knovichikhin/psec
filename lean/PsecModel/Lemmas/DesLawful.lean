import PsecModel.Cipher.Iface
/-! The reference Triple-DES is a permutation, for every key (not even an admissible size is needed) and every 8-byte block: the
bytes ↔ bits conversions are mutually inverse, `IP` and `FP` are inverse permutations (64 index facts), and a Feistel network run
over the reversed key list undoes itself whatever the round function; so EDE is undone by DED. -/
namespace Psec.DES

/-- bits as a number, first bit lowest -/
def packBits (l : Bits) : Nat := l.foldr (fun b a => 2 * a + b.toNat) 0

theorem testBit_packBits : ∀ (l : Bits) (j : Nat), (packBits l).testBit j = l.getD j false
  | [], j => by simp [packBits]
  | b :: r, 0 => by cases b <;> simp [packBits, Nat.testBit_zero] <;> omega
  | b :: r, j + 1 => by
    have h : (2 * packBits r + b.toNat) / 2 = packBits r := by cases b <;> simp <;> omega
    rw [Nat.testBit_add_one, packBits, List.foldr_cons, ← packBits, h, testBit_packBits r j]; simp

theorem bitsToNat_eq (l : Bits) : bitsToNat l = packBits l.reverse := by
  rw [bitsToNat, packBits, List.foldr_reverse]

theorem byte_bits (b : UInt8) : UInt8.ofNat (bitsToNat (byteBits b)) = b := by
  have h : ∀ n : Fin 256, UInt8.ofNat (bitsToNat (byteBits (UInt8.ofNat n.val))) = UInt8.ofNat n.val := by decide +kernel
  simpa using h ⟨b.toNat, b.toNat_lt⟩

theorem bits_byte (b7 b6 b5 b4 b3 b2 b1 b0 : Bool) :
    byteBits (UInt8.ofNat (bitsToNat [b7, b6, b5, b4, b3, b2, b1, b0])) = [b7, b6, b5, b4, b3, b2, b1, b0] := by
  have h (x j : Nat) : (x % 256).testBit j = (decide (j < 8) && x.testBit j) := Nat.testBit_mod_two_pow x 8 j
  -- bit `j` of the byte is bit `j` of `bitsToNat l` (`h`: `% 256` keeps the bits below 8), i.e. entry `j` of `l.reverse` (`testBit_packBits`);
  -- `Nat.testBit_zero` is held back: it turns bit 0 into `· % 2 = 1` before `testBit_packBits` can read it
  simp [byteBits, h, bitsToNat_eq, testBit_packBits, -Nat.testBit_zero]

theorem bitsToBytes_byteBits (x : UInt8) (r : Bits) : bitsToBytes (byteBits x ++ r) = x :: bitsToBytes r := by
  have h := byte_bits x
  simp only [byteBits] at h ⊢
  simp only [List.cons_append, List.nil_append, bitsToBytes, h]

theorem bitsToBytes_bytesToBits (b : Bytes) : bitsToBytes (bytesToBits b) = b := by
  induction b with
  | nil => rfl
  | cons x r ih => rw [bytesToBits, bitsToBytes_byteBits, ih]

theorem bytesToBits_len : ∀ b : Bytes, (bytesToBits b).length = 8 * b.length
  | [] => rfl
  | x :: r => by
    simp only [bytesToBits, List.length_append, bytesToBits_len r, byteBits, List.length_cons, List.length_nil]; omega

/-- what the fall-through case of `bitsToBytes` knows about its argument -/
theorem lt8_of_not_cons8 {α : Type} : ∀ (l : List α),
    (∀ a b c d e f g h r, l = a :: b :: c :: d :: e :: f :: g :: h :: r → False) → l.length < 8
  | [], _ | [_], _ | [_, _], _ | [_, _, _], _ | [_, _, _, _], _ | [_, _, _, _, _], _ | [_, _, _, _, _, _], _
  | [_, _, _, _, _, _, _], _ => by simp
  | a :: b :: c :: d :: e :: f :: g :: h :: r, hn => (hn a b c d e f g h r rfl).elim

theorem bytesToBits_bitsToBytes (x : Bits) (hx : x.length % 8 = 0) :
    bytesToBits (bitsToBytes x) = x ∧ (bitsToBytes x).length = x.length / 8 := by
  fun_induction bitsToBytes x with
  | case1 b7 b6 b5 b4 b3 b2 b1 b0 r ih =>
    obtain ⟨i1, i2⟩ := ih (by simp only [List.length_cons] at hx; omega)
    exact ⟨by simp [bytesToBits, bits_byte, i1], by simp [i2]; omega⟩
  | case2 x h =>
    have : x = [] := List.eq_nil_of_length_eq_zero (by have := lt8_of_not_cons8 x h; omega)
    subst this
    exact ⟨rfl, rfl⟩

theorem permute_eq (tbl : List Nat) (bits : Bits) : permute tbl bits = tbl.map (fun i => bits.getD (i - 1) false) := by
  unfold permute
  apply List.map_congr_left
  intro i _
  simp [List.getD_eq_getElem?_getD]

theorem permute_len (tbl : List Nat) (bits : Bits) : (permute tbl bits).length = tbl.length := by
  rw [permute_eq]; simp

theorem ipfp_fin : ∀ j : Fin 64,
    (FP.getD (IP.getD j.val 0 - 1) 0 - 1 = j.val ∧ IP.getD j.val 0 - 1 < 64) ∧
    (IP.getD (FP.getD j.val 0 - 1) 0 - 1 = j.val ∧ FP.getD j.val 0 - 1 < 64) := by decide +kernel

theorem IP_len : IP.length = 64 := by decide
theorem FP_len : FP.length = 64 := by decide

theorem permute_comp (T1 T2 : List Nat) (h1 : T1.length = 64) (h2 : T2.length = 64)
    (hinv : ∀ j : Fin 64, T2.getD (T1.getD j.val 0 - 1) 0 - 1 = j.val ∧ T1.getD j.val 0 - 1 < 64)
    (x : Bits) (hx : x.length = 64) : permute T1 (permute T2 x) = x := by
  rw [permute_eq T1, permute_eq T2]
  apply List.ext_getElem (by simp [h1, hx])
  intro j hj1 hj2
  obtain ⟨e1, e2⟩ := hinv ⟨j, hx ▸ hj2⟩
  have gd {α} (l : List α) (i : Nat) (d : α) (h : i < l.length) : l.getD i d = l[i] := (List.getElem_eq_getD d).symm
  rw [gd T1 j 0 (by omega)] at e1 e2
  rw [gd T2 _ 0 (by omega)] at e1
  -- entry `j` is entry `T1[j] - 1` of the inner list, which is entry `T2[T1[j] - 1] - 1 = j` of `x`
  rw [List.getElem_map, gd _ _ _ (by simpa [h2] using e2), List.getElem_map, e1]
  exact gd x j false hj2

theorem ip_fp (x : Bits) (hx : x.length = 64) : permute IP (permute FP x) = x :=
  permute_comp IP FP IP_len FP_len (fun j => (ipfp_fin j).1) x hx
theorem fp_ip (x : Bits) (hx : x.length = 64) : permute FP (permute IP x) = x :=
  permute_comp FP IP FP_len IP_len (fun j => (ipfp_fin j).2) x hx

theorem xorBits_len : ∀ a b : Bits, (xorBits a b).length = min a.length b.length
  | [], _ => by simp [xorBits]
  | _ :: _, [] => by simp [xorBits]
  | a :: s, b :: k => by simp [xorBits, xorBits_len s k]

theorem xorBits_cancel : ∀ a b : Bits, a.length ≤ b.length → xorBits (xorBits a b) b = a
  | [], _, _ => by simp [xorBits]
  | a :: s, [], h => by simp at h
  | a :: s, b :: k, h => by
    simp only [xorBits]
    rw [xorBits_cancel s k (by simpa using h)]
    cases a <;> cases b <;> rfl

theorem P_len : P.length = 32 := by decide
theorem feistelF_len (r k : Bits) : (feistelF r k).length = 32 := by
  unfold feistelF; rw [permute_len]; exact P_len

def Half (s : Bits × Bits) : Prop := s.1.length = 32 ∧ s.2.length = 32

theorem round_half (s : Bits × Bits) (k : Bits) (h : Half s) : Half (round s k) := by
  unfold round Half
  refine ⟨h.2, ?_⟩
  rw [xorBits_len, h.1, feistelF_len]; rfl

theorem rounds_half : ∀ (ks : List Bits) (s : Bits × Bits), Half s → Half (ks.foldl round s)
  | [], s, h => h
  | k :: r, s, h => by simp only [List.foldl_cons]; exact rounds_half r _ (round_half s k h)

theorem round_swap (s : Bits × Bits) (k : Bits) (h : Half s) : round (round s k).swap k = s.swap := by
  obtain ⟨l, r⟩ := s
  unfold round
  simp only [Prod.swap]
  rw [xorBits_cancel _ _ (by rw [h.1, feistelF_len]; exact Nat.le_refl _)]

theorem feistel_inv : ∀ (ks : List Bits) (s : Bits × Bits), Half s →
    ks.reverse.foldl round (ks.foldl round s).swap = s.swap
  | [], s, _ => rfl
  | k :: r, s, h => by
    rw [List.foldl_cons, List.reverse_cons, List.foldl_append, feistel_inv r _ (round_half s k h)]
    simp only [List.foldl_cons, List.foldl_nil]
    exact round_swap s k h

theorem desCore_len (ks : List Bits) (b : Bits) : (desCore ks b).length = 64 := by
  unfold desCore; rw [permute_len]; exact FP_len

theorem desCore_inv (ks : List Bits) (b : Bits) (hb : b.length = 64) : desCore ks.reverse (desCore ks b) = b := by
  have hip : (permute IP b).length = 64 := by rw [permute_len]; exact IP_len
  have h0 : Half ((permute IP b).take 32, (permute IP b).drop 32) := by simp [Half, hip]
  have hn := rounds_half ks _ h0
  have hf := feistel_inv ks _ h0
  simp only [desCore]
  generalize ks.foldl round ((permute IP b).take 32, (permute IP b).drop 32) = sn at hn hf
  -- `IP` undoes the first `FP`; the halves come back swapped, which is what `feistel_inv` starts from
  rw [ip_fp _ (by simp [hn.1, hn.2]), List.take_left' hn.2, List.drop_left' hn.2, show (sn.2, sn.1) = sn.swap from rfl, hf]
  simp only [Prod.swap, List.take_append_drop]
  exact fp_ip b hb

theorem desCore_inv' (ks : List Bits) (b : Bits) (hb : b.length = 64) : desCore ks (desCore ks.reverse b) = b := by
  have := desCore_inv ks.reverse b hb
  rwa [List.reverse_reverse] at this

def permuteN (tbl : List Nat) (bits : Bits) : Bits :=
  let n := packBits bits
  tbl.map (fun i => n.testBit (i - 1))

/-- Nearly all the kernel's work on a known-answer vector is in `permute`, which walks the bit list once per output bit; `permuteN`
reads the bits off one number. To rewrite with this, first unfold the cipher down to its calls of `permute`, as
`Cipher/VectorsDes.lean` does. -/
theorem permute_eq_N : permute = permuteN := by
  funext tbl bits
  rw [permute_eq]
  simp [permuteN, testBit_packBits]

/-- With a key of 8 bytes (`K1 = K2 = K3`) EDE is single DES; the single-DES vector is evaluated through this, one `desCore` for
three. -/
theorem tdesE_single (key b : Bytes) (hk : key.length < 16) (hb : b.length = 8) :
    tdesE key b = bitsToBytes (desCore (keySchedule (key.take 8)) (bytesToBits b)) := by
  unfold tdesE tkeys tdesEBits
  simp only [if_neg (by omega : ¬ 16 ≤ key.length), if_neg (by omega : ¬ 24 ≤ key.length)]
  rw [desCore_inv _ _ (by rw [bytesToBits_len, hb])]

end Psec.DES

namespace Psec
open Psec.DES

theorem refTdes_laws (k b : Bytes) (hb : b.length = 8) :
    DES.tdesD k (DES.tdesE k b) = b ∧ DES.tdesE k (DES.tdesD k b) = b ∧ (DES.tdesE k b).length = 8 ∧ (DES.tdesD k b).length = 8 := by
  have hx : (bytesToBits b).length = 64 := by rw [bytesToBits_len, hb]
  have back : ∀ ks x, bytesToBits (bitsToBytes (desCore ks x)) = desCore ks x ∧ (bitsToBytes (desCore ks x)).length = 8 :=
    fun ks x => by simpa [desCore_len] using bytesToBits_bitsToBytes (desCore ks x) (by rw [desCore_len])
  unfold DES.tdesD DES.tdesE
  refine ⟨?_, ?_, (back _ _).2, (back _ _).2⟩
  · unfold tdesDBits tdesEBits
    rw [(back _ _).1, desCore_inv _ _ (desCore_len _ _), desCore_inv' _ _ (desCore_len _ _), desCore_inv _ _ hx,
      bitsToBytes_bytesToBits]
  · unfold tdesDBits tdesEBits
    rw [(back _ _).1, desCore_inv' _ _ (desCore_len _ _), desCore_inv _ _ (desCore_len _ _), desCore_inv' _ _ hx,
      bitsToBytes_bytesToBits]

end Psec
