import PsecModel.Lemmas.SpecBlocks
/-! The shape of what `Blocks.dump` returns, and `Blocks.load ∘ Blocks.dump = id` for every list of valid blocks, also on the
optional-block section the specification's builder writes. -/
namespace Psec.Tr31
open Psec.Spec.TR31

theorem blocksDump_eq (d : Dict) (bs : Nat) : blocksDump d bs = dumpAll d >>= fun blocks =>
    if blocks.length % bs ≠ 0 then
      let padNum := bs - (blocks.length + 4) % bs
      if d.length + 1 > 99 then .error .header
      else .ok (d.length + 1, blocks ++ ([80, 66] ++ hex2U (4 + padNum) ++ zerosS padNum))
    else if d.length > 99 then .error .header else .ok (d.length, blocks) := by
  unfold blocksDump
  cases dumpAll d <;> rfl

theorem blocksDump_shape (d : Dict) (bs n : Nat) (s : PyStr) (hbs : 0 < bs) (h : blocksDump d bs = .ok (n, s)) :
    ∃ body pad, dumpAll d = .ok body ∧ s = body ++ pad ∧ n ≤ 99 ∧ s.length % bs = 0 ∧
      ((pad = [] ∧ n = d.length) ∨
       (∃ p, 1 ≤ p ∧ p ≤ bs ∧ pad = [80, 66] ++ hex2U (4 + p) ++ zerosS p ∧ n = d.length + 1)) := by
  rw [blocksDump_eq] at h
  obtain ⟨t, h1, h⟩ := bind_eq_ok.mp h
  have := Nat.mod_lt (t.length + 4) hbs
  split at h <;> obtain ⟨_, e⟩ := guard_eq_ok.mp h <;> cases e
  · refine ⟨t, _, h1, rfl, by omega, ?_, .inr ⟨bs - (t.length + 4) % bs, by omega, by omega, rfl, rfl⟩⟩
    have := (pad_arith bs (t.length + 4) hbs).1
    simp only [List.length_append, List.length_cons, List.length_nil, hex2U_length, zerosS, List.length_replicate]
    rwa [show t.length + (0 + 1 + 1 + 2 + (bs - (t.length + 4) % bs)) = t.length + 4 + (bs - (t.length + 4) % bs) by omega]
  · exact ⟨_, [], h1, (List.append_nil _).symm, by omega, by omega, .inl ⟨rfl, rfl⟩⟩

theorem blocksLoad_section (d : Dict) (forms : List Nat) (cnt : Nat) (pad tail : PyStr)
    (hwf : BlocksWF d) (hnd : (d.map Prod.fst).Nodup) (hf : FormsOK d forms) (hpad : PadSection cnt pad) :
    blocksLoad (d.length + cnt) (encodeBlocks d forms ++ pad ++ tail) = (.ok (encodeBlocks d forms ++ pad).length, d) := by
  obtain ⟨padl, hparse, hpadl⟩ := specParse_section d forms cnt pad tail (fun p hp => (hwf p hp).1) hf hpad
  have hfil := filter_noPad d padl (fun p hp => (hwf p hp).2) hpadl
  rw [← List.append_assoc] at hparse
  obtain ⟨k, hk, hr, hl⟩ := blocksLoad_parsed _ _ _ _ hparse
    (fun b hb hpb => by
      rcases List.mem_append.mp hb with hh | hh
      · rw [(hwf b hh).2] at hpb; cases hpb
      · rcases hpadl with rfl | ⟨z, rfl⟩
        · cases hh
        · rw [List.mem_singleton.mp hh])
    (by rw [hfil]; exact hnd)
  have hkl : k = (encodeBlocks d forms ++ pad).length := by
    have := congrArg List.length hr
    rw [List.length_drop, List.length_append] at this
    rw [List.length_append] at hk
    omega
  rw [hl, hfil, hkl]

/-- `Blocks.load ∘ Blocks.dump = id`. `bs ≤ 16` keeps the pad block's length (at most `4 + bs`) within the one byte of the
short form. -/
theorem blocks_load_dump (d : Dict) (bs : Nat) (hbs : 0 < bs) (hbs16 : bs ≤ 16) (n : Nat) (s tail : PyStr)
    (hwf : BlocksWF d) (hnd : (d.map Prod.fst).Nodup) (h : blocksDump d bs = .ok (n, s)) :
    blocksLoad n (s ++ tail) = (.ok s.length, d) ∧ s.length % bs = 0 ∧ n ≤ 99 ∧ d.length ≤ n ∧ n ≤ d.length + 1 := by
  obtain ⟨body, pad, hb, rfl, hn, hm, hp⟩ := blocksDump_shape d bs n s hbs h
  obtain ⟨forms, hf, rfl⟩ := dumpAll_encode d body hb
  rcases hp with ⟨rfl, rfl⟩ | ⟨p, _, hp, rfl, rfl⟩
  · exact ⟨blocksLoad_section d forms 0 [] tail hwf hnd hf (.inl ⟨rfl, rfl⟩), hm, hn, Nat.le_refl _, Nat.le_succ _⟩
  · refine ⟨?_, hm, hn, Nat.le_succ _, Nat.le_refl _⟩
    rw [← natHex2_eq _ (by omega), zerosS]
    exact blocksLoad_section d forms 1 _ tail hwf hnd hf (.inr ⟨p, by omega, rfl, rfl⟩)

theorem blocksLoad_spec (d : Dict) (forms : List Nat) (bs padMode : Nat) (tail : PyStr)
    (hwf : BlocksWF d) (hnd : (d.map Prod.fst).Nodup) (hf : FormsOK d forms)
    (hp : 4 + padSize bs (encodeBlocks d forms).length padMode ≤ 255) :
    blocksLoad (d.length + (padBlock bs (encodeBlocks d forms).length padMode).2)
        (encodeBlocks d forms ++ (padBlock bs (encodeBlocks d forms).length padMode).1 ++ tail) =
      (.ok (encodeBlocks d forms ++ (padBlock bs (encodeBlocks d forms).length padMode).1).length, d) :=
  blocksLoad_section d forms _ _ tail hwf hnd hf (padBlock_section bs _ padMode hp)

end Psec.Tr31
