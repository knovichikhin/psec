import PsecModel.Lemmas.BlockStep
/-! `Blocks.load` on **arbitrary** input strings: its errors are `HeaderError`, what it consumed is printable ASCII, and the
blocks it stores are valid with distinct ids (`loadLoop_spec`). -/
namespace Psec.Tr31

theorem blocksSet_spec (d : Dict) (k v : PyStr) :
    (∀ e, blocksSet d k v = .error e → e = .header) ∧
    (∀ d', blocksSet d k v = .ok d' → BlockOK k v ∧ d' = dictSet d k v) := by
  unfold blocksSet
  split
  · exact ⟨fun e he => by cases he; rfl, fun _ h => (nomatch h)⟩
  · rename_i h1
    split
    · exact ⟨fun e he => by cases he; rfl, fun _ h => (nomatch h)⟩
    · rename_i h2
      refine ⟨fun _ h => (nomatch h), fun d' hd => ?_⟩
      cases hd
      exact ⟨⟨Decidable.not_not.mp fun g => h1 (.inl g), Decidable.not_not.mp fun g => h1 (.inr g), Decidable.not_not.mp h2⟩, rfl⟩

theorem blocksSet_ok (d : Dict) (id data : PyStr) (h : BlockOK id data) :
    blocksSet d id data = .ok (dictSet d id data) := by
  simp [blocksSet, h.idlen, h.idan, h.dpr]

/-- the index advanced from `i` to `j` over a printable-ASCII prefix of `rest` -/
def Consumed (rest : PyStr) (i j : Nat) : Prop :=
  ∃ k, j = i + k ∧ k ≤ rest.length ∧ asciiPrintable (rest.take k) = true

theorem Consumed.step (rest : PyStr) (i j a : Nat) (ha : a ≤ rest.length) (hp : asciiPrintable (rest.take a) = true)
    (h : Consumed (rest.drop a) (i + a) j) : Consumed rest i j := by
  obtain ⟨k, hj, hk, hpk⟩ := h
  rw [List.length_drop] at hk
  refine ⟨a + k, by omega, by omega, ?_⟩
  rw [List.take_add, asciiPrintable_append, hp, hpk]; rfl

structure LoopSpec (rest : PyStr) (i : Nat) (d : Dict) (x : R Nat × Dict) : Prop where
  header : ∀ e, x.1 = .error e → e = .header
  consumed : ∀ j, x.1 = .ok j → Consumed rest i j
  wf : DictWF d → DictWF x.2

theorem LoopSpec.err (rest : PyStr) (i : Nat) (d : Dict) : LoopSpec rest i d (.error .header, d) := by
  refine ⟨fun e he => ?_, fun j hj => ?_, id⟩
  · injection he with he; exact he.symm
  · cases hj

theorem loadLoop_spec : ∀ (n : Nat) (rest : PyStr) (i : Nat) (d : Dict), LoopSpec rest i d (loadLoop n rest i d)
  | 0, rest, i, d => by
    simp only [loadLoop]
    exact ⟨fun _ he => (nomatch he), fun j hj => by cases hj; exact ⟨0, rfl, Nat.zero_le _, rfl⟩, id⟩
  | n + 1, rest, i, d => by
    rw [loadLoop_step]
    split; · exact .err rest i d
    rename_i hid
    cases hb : blockLen rest with
    | none => exact .err rest i d
    | some p =>
      obtain ⟨o, dl⟩ := p
      obtain ⟨ho4, hol, hhex⟩ := blockLen_spec rest o dl hb
      simp only []
      split; · exact .err rest i d
      rename_i hdl
      split; · exact .err rest i d
      rename_i hck
      have hal : asciiAlnum (rest.take 2) = true := Decidable.byContradiction fun g => hck (.inl g)
      have hpr : asciiPrintable ((rest.drop o).take dl) = true := Decidable.byContradiction fun g => hck (.inr g)
      -- what this iteration consumed: id ‖ length fields ‖ data
      have hpre : asciiPrintable (rest.take (o + dl)) = true := by
        rw [show o + dl = 2 + ((o - 2) + dl) by omega, List.take_add, List.take_add, List.drop_drop,
          show 2 + (o - 2) = o by omega, asciiPrintable_append, asciiPrintable_append, alnum_printable hal,
          hexchar_printable hhex, hpr]
        rfl
      have hle : o + dl ≤ rest.length := by
        have := Decidable.not_not.mp hdl; rw [List.length_take, List.length_drop] at this; omega
      have ih := loadLoop_spec n (rest.drop (o + dl)) (i + o + dl)
        (if isPB (rest.take 2) then d else dictSet d (rest.take 2) ((rest.drop o).take dl))
      refine ⟨ih.header, fun j hj => Consumed.step rest i j (o + dl) hle hpre (Nat.add_assoc i o dl ▸ ih.consumed j hj), fun hw => ih.wf ?_⟩
      split
      · exact hw
      · exact dictSet_wf d _ _ hw ⟨Decidable.not_not.mp hid, hal, hpr⟩

end Psec.Tr31
