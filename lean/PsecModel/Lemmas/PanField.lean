import PsecModel.Model.Pinblock
import PsecModel.Lemmas.Hex
/-! The format-4 PAN field of `encode_pan_field_iso_4` depends on the PAN only through its form right-justified to 12 digits, which
is what "bound digits" means for format 4 (C06). The encoder's equation and the field's length are in the namespace of
`Props/C05`, which uses them. -/
namespace Psec.Props.C05
open Psec.Spec Psec.Pinblock

theorem encodePanFieldIso4_eq (pan : PyStr) :
    encodePanFieldIso4 pan =
      if 1 ≤ pan.length ∧ pan.length ≤ 19 ∧ asciiNumeric pan = true then .ok (Spec.iso4PanField pan) else .error .value := by
  unfold encodePanFieldIso4
  by_cases h : 1 ≤ pan.length ∧ pan.length ≤ 19 ∧ asciiNumeric pan = true
  · obtain ⟨h1, h19, hn⟩ := h
    have hs : asciiNumeric (ljust 32 48 ([48 + (pan.length - 12)] ++ rjust 12 48 pan)) = true := by
      rw [asciiNumeric_ljust, asciiNumeric_append, asciiNumeric_rjust, hn, Bool.and_true]
      simp [asciiNumeric, isDigitC]; omega
    rw [if_neg (by simp only [hn, not_true_eq_false, or_false]; omega), if_pos ⟨h1, h19, hn⟩, natToDec_digit _ (by omega)]
    simp only []
    rw [a2bHex_numeric _ hs (by simp [ljust, rjust]; omega)]
    simp [digitsOf, ljust, rjust, Spec.iso4PanField]
  · rw [if_pos (by simpa only [Classical.not_and_iff_not_or_not, Nat.not_le] using h), if_neg h]

theorem iso4PanField_length (pan : PyStr) (h19 : pan.length ≤ 19) : (Spec.iso4PanField pan).length = 16 := by
  simp only [Spec.iso4PanField]
  rw [nibsToBytes_length]
  simp; omega

end Psec.Props.C05

namespace Psec.Props.C06
open Psec.Spec

/-- the nibbles of the PAN field of a PAN already right-justified to 12 digits -/
def panFieldNibs (r : PyStr) : Nibs := (r.length - 12) :: (digitsOf r ++ List.replicate (31 - r.length) 0)

theorem iso4PanField_rjust (pan : PyStr) : iso4PanField pan = nibsToBytes (panFieldNibs (rjust 12 48 pan)) := by
  simp [iso4PanField, panFieldNibs, rjust, digitsOf]
  -- what is left is the length nibble: `len - 12` against `(12 - len + len) - 12`
  congr 2
  omega

theorem panFieldNibs_ok (r : PyStr) (h19 : r.length ≤ 19) (hn : asciiNumeric r = true) : NibsOk (panFieldNibs r) := by
  refine ⟨fun x hx => ?_, by simp [panFieldNibs]; omega⟩
  rcases List.mem_cons.mp hx with rfl | hx
  · omega
  · rcases List.mem_append.mp hx with hx | hx
    · have := digitsOf_lt10 r hn x hx; omega
    · simp at hx; omega

/-- **format-4 PAN fields coincide exactly for PANs that are equal after zero-extension to 12 digits** -/
theorem iso4_pan_field_injective (pan pan' : PyStr) (h1 : 1 ≤ pan.length) (h19 : pan.length ≤ 19) (hn : asciiNumeric pan = true)
    (h1' : 1 ≤ pan'.length) (h19' : pan'.length ≤ 19) (hn' : asciiNumeric pan' = true) :
    iso4PanField pan = iso4PanField pan' ↔ rjust 12 48 pan = rjust 12 48 pan' := by
  rw [iso4PanField_rjust, iso4PanField_rjust]
  refine ⟨fun h => ?_, fun h => by rw [h]⟩
  have hr : ∀ p : PyStr, p.length ≤ 19 → asciiNumeric p = true →
      12 ≤ (rjust 12 48 p).length ∧ (rjust 12 48 p).length ≤ 19 ∧ asciiNumeric (rjust 12 48 p) = true := fun p hp hpn =>
    ⟨by rw [rjust_length]; omega, by rw [rjust_length]; omega, by rw [asciiNumeric_rjust, hpn]⟩
  obtain ⟨l12, l19, rn⟩ := hr pan h19 hn
  obtain ⟨l12', l19', rn'⟩ := hr pan' h19' hn'
  generalize rjust 12 48 pan = r at *
  generalize rjust 12 48 pan' = r' at *
  have h2 := congrArg bytesToNibs h
  rw [bytesToNibs_nibsToBytes _ (panFieldNibs_ok r l19 rn), bytesToNibs_nibsToBytes _ (panFieldNibs_ok r' l19' rn')] at h2
  -- the length indicator fixes the length, so the digits can be compared position by position
  obtain ⟨hh, ht⟩ := List.cons.inj h2
  exact digitsOf_inj r r' rn rn' (List.append_inj ht (by simp; omega)).1

theorem iso4_pan_field_injective_long (pan pan' : PyStr) (h12 : 12 ≤ pan.length) (h19 : pan.length ≤ 19) (hn : asciiNumeric pan = true)
    (h12' : 12 ≤ pan'.length) (h19' : pan'.length ≤ 19) (hn' : asciiNumeric pan' = true)
    (h : iso4PanField pan = iso4PanField pan') : pan = pan' := by
  have := (iso4_pan_field_injective pan pan' (by omega) h19 hn (by omega) h19' hn').mp h
  simpa [rjust, Nat.sub_eq_zero_of_le h12, Nat.sub_eq_zero_of_le h12'] using this

end Psec.Props.C06
