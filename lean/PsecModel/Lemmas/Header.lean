import PsecModel.Lemmas.BlockStep
import PsecModel.Lemmas.Load
/-! Header well-formedness, the structure of `Header.dump` / `str`, and re-loading of a dumped header. -/
namespace Psec.Tr31
open Psec.Props.C17

/-- an invariant of every object reachable through the public API (`Lemmas/Reachable`): each field passes its setter's check;
`reserved` has no setter (`_reserved` is `00` from `__init__` or the two alphanumeric characters `Header.load` takes); every stored
block passed `Blocks.__setitem__`'s checks, and a dict has each id once -/
structure Header.WF (h : Header) : Prop where
  ver : versionOk h.versionId = true
  ku : h.keyUsage.length = 2 ∧ asciiAlnum h.keyUsage = true
  alg : h.algorithm.length = 1 ∧ asciiAlnum h.algorithm = true
  mou : h.modeOfUse.length = 1 ∧ asciiAlnum h.modeOfUse = true
  vn : h.versionNum.length = 2 ∧ asciiAlnum h.versionNum = true
  ex : h.exportability.length = 1 ∧ asciiAlnum h.exportability = true
  res : h.reserved.length = 2 ∧ asciiAlnum h.reserved = true
  blocks : ∀ p ∈ h.blocks, BlockOK p.1 p.2
  nodup : (h.blocks.map Prod.fst).Nodup

/-- no optional block id upper-cases to `PB` ("optional blocks other than the pad block") -/
def NoPadIds (d : Dict) : Prop := ∀ p ∈ d, isPB p.1 = false

theorem Header.WF.dictWF {h : Header} (hw : h.WF) : DictWF h.blocks := ⟨hw.blocks, hw.nodup⟩

theorem Header.WF.blocksWF {h : Header} (hw : h.WF) (hnp : NoPadIds h.blocks) : BlocksWF h.blocks :=
  fun p hp => ⟨hw.blocks p hp, hnp p hp⟩

theorem versionOk_cases (v : PyStr) (h : versionOk v = true) : v = [65] ∨ v = [66] ∨ v = [67] ∨ v = [68] := by
  unfold versionOk at h
  simp only [Bool.or_eq_true, beq_iff_eq] at h
  rcases h with ((h | h) | h) | h <;> simp [h]

theorem versionOk_iff (v : Nat) : versionOk [v] = true ↔ (v = 65 ∨ v = 66 ∨ v = 67 ∨ v = 68) := by
  simp [versionOk, or_assoc]

theorem versionOk_len (v : PyStr) (h : versionOk v = true) : v.length = 1 ∧ asciiAlnum v = true := by
  rcases versionOk_cases v h with rfl | rfl | rfl | rfl <;> decide

theorem versionOk_bs (v : PyStr) (h : versionOk v = true) : ∃ bs ml, algoBs v = some bs ∧ macLen v = some ml := by
  rcases versionOk_cases v h with rfl | rfl | rfl | rfl <;> exact ⟨_, _, rfl, rfl⟩

theorem versionOk_of_algoBs {v : PyStr} {bs : Nat} (hb : algoBs v = some bs) : versionOk v = true := by
  cases h : versionOk v with
  | true => rfl
  | false => simp [versionOk] at h; simp [algoBs, h] at hb

theorem algoBs_cases (v : PyStr) (bs : Nat) (hb : algoBs v = some bs) : bs = 8 ∨ bs = 16 := by
  rcases versionOk_cases v (versionOk_of_algoBs hb) with rfl | rfl | rfl | rfl <;> cases hb <;> decide

/-- what makes every section of a key block a whole number of cipher blocks -/
theorem version_align (v : PyStr) (bs ml : Nat) (hb : algoBs v = some bs) (hm : macLen v = some ml) :
    0 < bs ∧ bs ≤ 16 ∧ 16 % bs = 0 ∧ (2 * ml) % bs = 0 := by
  rcases versionOk_cases v (versionOk_of_algoBs hb) with rfl | rfl | rfl | rfl <;> cases hb <;> cases hm <;> decide

/-- psec's tables against the specification's `bsOf`, `macLenOf` -/
theorem algo_of (v : Nat) (h : versionOk [v] = true) :
    algoBs [v] = some (Spec.TR31.bsOf v) ∧ macLen [v] = some (Spec.TR31.macLenOf v) ∧
      (Spec.TR31.bsOf v = 8 ∨ Spec.TR31.bsOf v = 16) ∧ (2 * Spec.TR31.macLenOf v) % Spec.TR31.bsOf v = 0 := by
  rcases versionOk_cases _ h with e | e | e | e <;> cases e <;> decide

theorem bsOf_of_ne {v : Nat} (h : v ≠ 68) : Spec.TR31.bsOf v = 8 := if_neg h
theorem bsOf_ge (v : Nat) : 8 ≤ Spec.TR31.bsOf v := by unfold Spec.TR31.bsOf; split <;> decide

theorem dump_eq (h : Header) (keyLen : Nat) {bs ml : Nat} (hb : algoBs h.versionId = some bs) (hm : macLen h.versionId = some ml) :
    h.dump keyLen = blocksDump h.blocks bs >>= fun p =>
      let kbLen := 16 + 4 + keyLen * 2 + (bs - (2 + keyLen) % bs) * 2 + ml * 2 + p.2.length
      if kbLen > 9999 then .error .header else .ok (h.assemble kbLen p.1 p.2) := by
  simp only [Header.dump, hb, hm]
  cases blocksDump h.blocks bs <;> rfl

theorem str_eq (h : Header) {bs : Nat} (hb : algoBs h.versionId = some bs) :
    h.str = (blocksDump h.blocks bs).map fun p => h.assemble (16 + p.2.length) p.1 p.2 := by
  simp only [Header.str, hb]
  cases blocksDump h.blocks bs <;> rfl

theorem dump_ok {h : Header} {keyLen bs ml : Nat} {s : PyStr} (hb : algoBs h.versionId = some bs)
    (hm : macLen h.versionId = some ml) (hd : h.dump keyLen = .ok s) :
    ∃ n blocks, blocksDump h.blocks bs = .ok (n, blocks) ∧
      16 + 4 + keyLen * 2 + (bs - (2 + keyLen) % bs) * 2 + ml * 2 + blocks.length ≤ 9999 ∧
      s = h.assemble (16 + 4 + keyLen * 2 + (bs - (2 + keyLen) % bs) * 2 + ml * 2 + blocks.length) n blocks := by
  rw [dump_eq h keyLen hb hm] at hd
  obtain ⟨⟨n, blocks⟩, hbd, hd⟩ := bind_eq_ok.mp hd
  obtain ⟨hle, e⟩ := guard_eq_ok.mp hd
  cases e
  exact ⟨n, blocks, hbd, Nat.not_lt.mp hle, rfl⟩

theorem assemble_length (h : Header) (hw : h.WF) (len n : Nat) (blocks : PyStr) (hl : len ≤ 9999) (hn : n ≤ 99) :
    (h.assemble len n blocks).length = 16 + blocks.length := by
  unfold Header.assemble
  rw [zfill4_eq _ hl, zfill2_eq _ hn]
  simp only [List.length_append, dec4s_length, dec2s_length, hw.ku.1, hw.alg.1, hw.mou.1, hw.vn.1, hw.ex.1, hw.res.1,
    (versionOk_len _ hw.ver).1]

theorem assemble_fields (h : Header) (hw : h.WF) (len n : Nat) (hl : len ≤ 9999) (hn : n ≤ 99) (blocks : PyStr) :
    ∃ v k0 k1 a0 m0 v0 v1 x0 r0 r1,
      h = { versionId := [v], keyUsage := [k0, k1], algorithm := [a0], modeOfUse := [m0], versionNum := [v0, v1],
            exportability := [x0], reserved := [r0, r1], blocks := h.blocks } ∧
      h.assemble len n blocks = v :: (dec4s len ++ ([k0, k1, a0, m0, v0, v1, x0] ++ (dec2s n ++ (r0 :: r1 :: blocks)))) ∧
      asciiAlnum [v, k0, k1, a0, m0, v0, v1, x0, r0, r1] = true := by
  obtain ⟨ver, ku, alg, mou, vn, ex, res, bl⟩ := h
  obtain ⟨v, rfl⟩ := len1 ver (versionOk_len _ hw.ver).1
  obtain ⟨k0, k1, rfl⟩ := len2 ku hw.ku.1
  obtain ⟨a0, rfl⟩ := len1 alg hw.alg.1
  obtain ⟨m0, rfl⟩ := len1 mou hw.mou.1
  obtain ⟨v0, v1, rfl⟩ := len2 vn hw.vn.1
  obtain ⟨x0, rfl⟩ := len1 ex hw.ex.1
  obtain ⟨r0, r1, rfl⟩ := len2 res hw.res.1
  refine ⟨v, k0, k1, a0, m0, v0, v1, x0, r0, r1, rfl, ?_, ?_⟩
  · rw [Header.assemble, zfill4_eq _ hl, zfill2_eq _ hn]
    rfl
  · show asciiAlnum ([v] ++ [k0, k1] ++ [a0] ++ [m0] ++ [v0, v1] ++ [x0] ++ [r0, r1]) = true
    simp only [asciiAlnum_append, (versionOk_len _ hw.ver).2, hw.ku.2, hw.alg.2, hw.mou.2, hw.vn.2, hw.ex.2, hw.res.2,
      Bool.and_self]

theorem load_assemble (h : Header) (hw : h.WF) (len n : Nat) (blocks tail : PyStr) (hl : len ≤ 9999) (hn : n ≤ 99)
    (hbl : blocksLoad n (blocks ++ tail) = (.ok blocks.length, h.blocks)) :
    loadPure (h.assemble len n blocks ++ tail) = .ok (16 + blocks.length, h) := by
  obtain ⟨v, k0, k1, a0, m0, v0, v1, x0, r0, r1, hh, hasm, hal⟩ := assemble_fields h hw len n hl hn blocks
  have hver := hw.ver
  obtain ⟨ver, ku, alg, mou, vn, ex, res, bl⟩ := h
  cases hh
  have hd4 := numeric_alnum (dec4s_numeric len)
  have hd2 := numeric_alnum (dec2s_numeric n)
  have hnum := dec2s_numeric n
  have hdv := decVal_dec2s n hn
  simp only [asciiAlnum, asciiNumeric, dec4s, dec2s, List.all_cons, List.all_nil, Bool.and_true, Bool.and_eq_true]
    at hal hd4 hd2 hnum hdv
  rw [hasm, loadPure_ok_iff]
  simp only [dec4s, dec2s, List.cons_append, List.nil_append, List.take_succ_cons, List.take_zero, List.drop_succ_cons,
    List.drop_zero, asciiAlnum, asciiNumeric, List.all_cons, List.all_nil, Bool.and_true, List.length_cons, hver, hdv, hbl,
    hal, hd4, hd2, hnum, and_self, true_and]
  exact ⟨by omega, _, rfl, rfl, trivial⟩

end Psec.Tr31
