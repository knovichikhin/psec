import PsecModel.Lemmas.Header
import PsecModel.Lemmas.Blocks
/-! The characters a key block is made of: upper-case hex sections that `bytes.fromhex` reads back, a printable header
section with its length field, and sections that are whole numbers of cipher blocks. -/
namespace Psec.Tr31

/-- the characters of `bytes.hex().upper()` -/
def isUpperHexC (c : Nat) : Bool := isDigitC c || (decide (65 ≤ c) && decide (c ≤ 70))

theorem hexDigitU_upper_fin : ∀ n : Fin 16, isUpperHexC (hexDigitU n.val) = true := by decide

theorem toHexU_chars (b : Bytes) : (toHexU b).all isUpperHexC = true ∧ asciiPrintable (toHexU b) = true := by
  refine ⟨?_, hexchar_printable (toHexU_hexchar b)⟩
  rw [toHexU_eq, List.all_map, List.all_eq_true]
  exact fun x hx => hexDigitU_upper_fin ⟨x, bytesToNibs_lt b x hx⟩

theorem blocksDump_printable (d : Dict) (bs n : Nat) (s : PyStr) (hbs : 0 < bs) (hbs16 : bs ≤ 16)
    (hw : ∀ p ∈ d, BlockOK p.1 p.2) (h : blocksDump d bs = .ok (n, s)) : asciiPrintable s = true := by
  obtain ⟨body, pad, hb, hs, _, _, hp⟩ := blocksDump_shape d bs n s hbs h
  obtain ⟨forms, -, rfl⟩ := dumpAll_encode d body hb
  rw [hs, asciiPrintable_append, encodeBlocks_printable d forms hw]
  rcases hp with ⟨rfl, _⟩ | ⟨p, _, hp16, rfl, _⟩
  · rfl
  · rw [asciiPrintable_append, asciiPrintable_append, hex2U_printable _ (by omega), zerosS_printable]; rfl

theorem assemble_printable (h : Header) (hw : h.WF) (len n : Nat) (blocks : PyStr) (hl : len ≤ 9999) (hn : n ≤ 99)
    (hb : asciiPrintable blocks = true) : asciiPrintable (h.assemble len n blocks) = true := by
  unfold Header.assemble
  rw [zfill4_eq _ hl, zfill2_eq _ hn]
  simp only [asciiPrintable_append, alnum_printable (versionOk_len _ hw.ver).2, alnum_printable (numeric_alnum (dec4s_numeric len)),
    alnum_printable hw.ku.2, alnum_printable hw.alg.2, alnum_printable hw.mou.2, alnum_printable hw.vn.2,
    alnum_printable hw.ex.2, alnum_printable (numeric_alnum (dec2s_numeric n)), alnum_printable hw.res.2, hb, Bool.and_self]

theorem assemble_lenfield (h : Header) (hw : h.WF) (len n : Nat) (blocks tail : PyStr) (hl : len ≤ 9999) :
    ((h.assemble len n blocks ++ tail).take 5).drop 1 = dec4s len := by
  unfold Header.assemble
  rw [zfill4_eq _ hl]
  obtain ⟨v, hv⟩ := len1 _ (versionOk_len _ hw.ver).1
  rw [hv]
  simp [dec4s]

theorem framed_mod (b e ml bs : Nat) (h16 : 16 % bs = 0) (hb : b % bs = 0) (he : e % bs = 0) (hm : (2 * ml) % bs = 0) :
    (16 + b + 2 * e + 2 * ml) % bs = 0 :=
  add_mod_zero (add_mod_zero (add_mod_zero h16 hb) (by rw [Nat.mul_mod, he]; simp)) hm

theorem framed_length (h : Header) (hw : h.WF) (len n : Nat) (blocks : PyStr) (enc mac : Bytes) (hl : len ≤ 9999)
    (hn : n ≤ 99) :
    (h.assemble len n blocks ++ toHexU enc ++ toHexU mac).length = 16 + blocks.length + 2 * enc.length + 2 * mac.length := by
  rw [List.length_append, List.length_append, assemble_length h hw len n blocks hl hn, toHexU_length, toHexU_length]

end Psec.Tr31
