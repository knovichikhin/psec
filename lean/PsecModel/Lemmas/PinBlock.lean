import PsecModel.Model.Pinblock
import PsecModel.Lemmas.Hex
/-! The clear PIN block shared by formats 0, 2, 3, 4: `plain ctrl pin fill` is control ‖ length ‖ PIN digits ‖ fill. The encoders
pack it (formats 0 and 3 after masking it with the PAN block); the specification's `wellFormed` holds of it when its fill is
admitted (`wellFormed_plain`: the round trips of C04) and of nothing else (`wellFormed_iff`: which PINs a decoder can return, and
that a block determines its PIN). Nothing here depends on the format: a further one brings its control value and its fill, and, in
`Props/C06`, the agreement of the model's fill test on characters with the specification's on nibbles (`FillAgree`). -/
namespace Psec.Pinblock
open Psec.Spec

theorem pinOk_iff (pin : PyStr) : pinOk pin = true ↔ (4 ≤ pin.length ∧ pin.length ≤ 12 ∧ asciiNumeric pin = true) := by
  unfold pinOk; simp [and_assoc]

theorem panOk13_iff (pan : PyStr) : panOk13 pan = true ↔ (13 ≤ pan.length ∧ asciiNumeric pan = true) := by
  unfold panOk13; simp

/-- An `abbrev`: the specification's `iso0Plain pin`, `iso3Plain pin fill` and the arguments of `nibsToBytes` in `iso2`, `iso4PinField`
are instances of it by unfolding, so its lemmas apply to them as they stand. -/
abbrev plain (ctrl : Nat) (pin : PyStr) (fill : Nibs) : Nibs := [ctrl, pin.length] ++ digitsOf pin ++ fill

theorem plain_length (ctrl : Nat) (pin : PyStr) (fill : Nibs) : (plain ctrl pin fill).length = 2 + pin.length + fill.length := by
  simp [plain]; omega

theorem plain_ok (ctrl : Nat) (pin : PyStr) (fill : Nibs) (hc : ctrl < 16) (hp : pinOk pin = true)
    (hf : ∀ x ∈ fill, x < 16) (hl : (pin.length + fill.length) % 2 = 0) : NibsOk (plain ctrl pin fill) := by
  obtain ⟨_, h12, hn⟩ := (pinOk_iff pin).mp hp
  refine ⟨fun x hx => ?_, by rw [plain_length]; omega⟩
  simp only [plain, List.cons_append, List.nil_append, List.mem_cons, List.mem_append] at hx
  rcases hx with hx | hx | hx | hx
  · omega
  · omega
  · have := digitsOf_lt10 pin hn x hx; omega
  · exact hf x hx

theorem plain_block (ctrl : Nat) (pin : PyStr) (fill : Nibs) (hc : ctrl < 16) (hp : pinOk pin = true)
    (hf : ∀ x ∈ fill, x < 16) (hl : fill.length = 14 - pin.length) :
    NibsOk (plain ctrl pin fill) ∧ (nibsToBytes (plain ctrl pin fill)).length = 8 := by
  obtain ⟨h4, h12, _⟩ := (pinOk_iff pin).mp hp
  have hok := plain_ok ctrl pin fill hc hp hf (by omega)
  exact ⟨hok, by rw [nibsToBytes_length, plain_length]; omega⟩

/-- the first byte as the encoders write it: `len(pin)`, `len(pin) + 32`, `len(pin) + 48` for formats 0, 2, 3 (format 4 is written through a hex string, `a2bHex_body`) -/
theorem plain_bytes (ctrl : Nat) (pin : PyStr) (fill : Nibs) :
    nibsToBytes (plain ctrl pin fill) = UInt8.ofNat (pin.length + 16 * ctrl) :: nibsToBytes (digitsOf pin ++ fill) := by
  rw [Nat.add_comm, Nat.mul_comm]; rfl

theorem a2bHex_body (pin fill : PyStr) (hp : pinOk pin = true) (hf : asciiHexchar fill = true)
    (hl : fill.length = 14 - pin.length) :
    a2bHex (pin ++ fill) = some (nibsToBytes (digitsOf pin ++ fill.map hexNib)) := by
  obtain ⟨_, h12, hn⟩ := (pinOk_iff pin).mp hp
  rw [a2bHex_of_hex _ (by rw [asciiHexchar_append, asciiNumeric_hexchar hn, hf]; rfl) (by simp [hl]; omega),
    List.map_append, map_hexNib_eq_digitsOf pin hn]

theorem panNibs_ok (pan : PyStr) (h : panOk13 pan = true) : NibsOk (panNibs pan) ∧ (panNibs pan).length = 16 := by
  obtain ⟨h13, hn⟩ := (panOk13_iff pan).mp h
  have hl : (panNibs pan).length = 16 := by simp [panNibs]; omega
  refine ⟨⟨fun x hx => ?_, by rw [hl]⟩, hl⟩
  rcases List.mem_append.mp hx with hx | hx
  · simp at hx; omega
  · have := digitsOf_lt10 pan hn x (List.dropLast_subset _ (List.mem_of_mem_drop hx)); omega

theorem masked_bytes (ctrl : Nat) (pin pan : PyStr) (fill : Nibs) (hc : ctrl < 16) (hp : pinOk pin = true)
    (ha : panOk13 pan = true) (hf : ∀ x ∈ fill, x < 16) (hl : fill.length = 14 - pin.length) :
    nibsToBytes (nibXor (plain ctrl pin fill) (panNibs pan)) =
      xorBytes (nibsToBytes (plain ctrl pin fill)) (nibsToBytes (panNibs pan)) := by
  obtain ⟨h4, h12, _⟩ := (pinOk_iff pin).mp hp
  obtain ⟨hpok, hpl⟩ := panNibs_ok pan ha
  exact nibsToBytes_nibXor _ _ (plain_ok ctrl pin fill hc hp hf (by omega)) hpok (by rw [plain_length, hpl]; omega)

theorem wellFormed_plain (ctrl : Nat) (fs : Nibs → Nat → Bool) (pin : PyStr) (fill : Nibs)
    (hpin : pinOk pin = true) : wellFormed ctrl fs (plain ctrl pin fill) pin = fs fill pin.length := by
  obtain ⟨h4, h12, hn⟩ := (pinOk_iff pin).mp hpin
  have htk : (digitsOf pin ++ fill).take pin.length = digitsOf pin := List.take_left' (digitsOf_length pin)
  have hdr : (ctrl :: pin.length :: (digitsOf pin ++ fill)).drop (2 + pin.length) = fill := by
    rw [Nat.add_comm]; exact List.drop_left' (digitsOf_length pin)
  have hd : (digitsOf pin).all (· < 10) = true :=
    List.all_eq_true.mpr fun x hx => by simpa using digitsOf_lt10 pin hn x hx
  simp [wellFormed, htk, hdr, hd, digitChars_digitsOf pin hn, h4, h12]

theorem wellFormed_iff (ctrl : Nat) (fs : Nibs → Nat → Bool) (nibs : Nibs) (pin : PyStr) (hl : 14 ≤ (nibs.drop 2).length) :
    wellFormed ctrl fs nibs pin = true ↔
      pinOk pin = true ∧ ∃ fill, nibs = plain ctrl pin fill ∧ fs fill pin.length = true := by
  constructor
  · intro h
    obtain ⟨n0, n1, rest, rfl⟩ : ∃ n0 n1 rest, nibs = n0 :: n1 :: rest := by
      match nibs, hl with
      | a :: b :: r, _ => exact ⟨a, b, r, rfl⟩
    simp only [wellFormed, List.headD_cons, List.getD_cons_succ, List.getD_cons_zero, List.drop_succ_cons, List.drop_zero,
      Bool.and_eq_true, beq_iff_eq, decide_eq_true_eq, List.all_eq_true] at h
    obtain ⟨⟨⟨⟨⟨rfl, h4⟩, h12⟩, rfl⟩, hd⟩, hfill⟩ := h
    have hlen : (digitChars (rest.take n1)).length = n1 := by
      simp only [List.drop_succ_cons, List.drop_zero] at hl
      simp [digitChars]; omega
    refine ⟨(pinOk_iff _).mpr ⟨by omega, by omega, digitChars_numeric _ fun x hx => by simpa using hd x hx⟩,
      rest.drop n1, ?_, ?_⟩
    · simp only [plain, hlen, digitsOf_digitChars, List.cons_append, List.nil_append, List.take_append_drop]
    · rw [hlen]; rw [Nat.add_comm] at hfill; exact hfill
  · rintro ⟨hp, fill, rfl, hf⟩
    rw [wellFormed_plain ctrl fs pin fill hp, hf]

theorem wellFormed_ctrl (ctrl : Nat) (fs : Nibs → Nat → Bool) (nibs : Nibs) (pin : PyStr)
    (h : wellFormed ctrl fs nibs pin = true) : nibs.headD 16 = ctrl := by
  unfold wellFormed at h
  simp only [Bool.and_eq_true, beq_iff_eq] at h
  exact h.1.1.1.1.1

end Psec.Pinblock
