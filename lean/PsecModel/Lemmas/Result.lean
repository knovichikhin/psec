import PsecModel.Py
/-! Outcomes `R = Except Err` without unfolding: when a bind or a guard chain succeeds, and `OnlyErr` with its closure rules.
The model propagates errors by `match x with | .error e => .error e | .ok a => …`, which does not unify with core's `>>=` (whose
matcher carries type parameters); the rules apply once a function has its equation in `>>=` or `if Dom then … else …` form
(for one bind by `cases x <;> rfl`, as `blocksDump_eq`; for a chain of them `Lemmas/Method.lean` writes the binds as matches over
the closed type, and `rfl`). -/
namespace Psec

variable {α β : Type} {S T : Err → Prop}

@[simp] theorem ok_bind (a : α) (f : α → R β) : (Except.ok a >>= f) = f a := rfl
@[simp] theorem error_bind (e : Err) (f : α → R β) : ((Except.error e : R α) >>= f) = .error e := rfl
@[simp] theorem map_ok (a : α) (f : α → β) : (Except.ok a : R α).map f = .ok (f a) := rfl
@[simp] theorem map_error (e : Err) (f : α → β) : (Except.error e : R α).map f = .error e := rfl

theorem bind_eq_ok {x : R α} {f : α → R β} {b : β} : x >>= f = .ok b ↔ ∃ a, x = .ok a ∧ f a = .ok b := by
  cases x <;> simp

theorem map_eq_ok {x : R α} {f : α → β} {b : β} : x.map f = .ok b ↔ ∃ a, x = .ok a ∧ f a = b := by
  cases x <;> simp

@[simp] theorem guard_eq_ok {p : Prop} [Decidable p] {e : Err} {x : R α} {b : α} :
    (if p then .error e else x) = .ok b ↔ ¬ p ∧ x = .ok b := by
  split <;> simp [*]

@[simp] theorem guard_eq_ok' {p : Prop} [Decidable p] {e : Err} {x : R α} {b : α} :
    (if p then x else .error e) = .ok b ↔ p ∧ x = .ok b := by
  split <;> simp [*]

theorem guard_eq_some {p : Prop} [Decidable p] {x : Option α} {b : α} :
    (if p then none else x) = some b ↔ ¬ p ∧ x = some b := by
  split <;> simp [*]

/-- `r` fails only with errors in `S` -/
def OnlyErr (S : Err → Prop) (r : R α) : Prop := ∀ e, r = .error e → S e

theorem OnlyErr.ok (a : α) : OnlyErr S (.ok a) := fun _ h => by cases h

theorem OnlyErr.error {e : Err} (h : S e) : OnlyErr S (.error e : R α) := fun _ he => by cases he; exact h

theorem OnlyErr.mono {r : R α} (h : OnlyErr S r) (hST : ∀ e, S e → T e) : OnlyErr T r := fun e he => hST e (h e he)

theorem OnlyErr.bind {x : R α} {f : α → R β} (hx : OnlyErr S x) (hf : ∀ a, x = .ok a → OnlyErr S (f a)) :
    OnlyErr S (x >>= f) := by
  cases x with
  | error e => exact .error (hx e rfl)
  | ok a => exact hf a rfl

theorem OnlyErr.map {x : R α} {f : α → β} (hx : OnlyErr S x) : OnlyErr S (x.map f) := by
  cases x with
  | error e => exact .error (hx e rfl)
  | ok a => exact .ok _

theorem OnlyErr.ite {p : Prop} [Decidable p] {a b : R α} (ha : p → OnlyErr S a) (hb : ¬ p → OnlyErr S b) :
    OnlyErr S (if p then a else b) := by
  split
  · exact ha ‹_›
  · exact hb ‹_›

/-- "a value or `ValueError`", as the statements about single functions spell it -/
theorem onlyValue_iff {r : R α} : OnlyErr (· = .value) r ↔ (∃ v, r = .ok v) ∨ r = .error .value := by
  cases r with
  | ok a => exact ⟨fun _ => .inl ⟨a, rfl⟩, fun _ => .ok a⟩
  | error e => exact ⟨fun h => .inr (by rw [h e rfl]), fun h => h.elim (fun ⟨_, h⟩ => nomatch h) fun h => by cases h; exact .error rfl⟩

theorem domain_of_ite {r : R α} {D : Prop} [Decidable D] {v : α} (h : r = if D then .ok v else .error .value) :
    ((∃ w, r = .ok w) ↔ D) ∧ (¬ D → r = .error .value) := by
  subst h
  by_cases hD : D <;> simp [hD]

theorem guard_value {g : Prop} [Decidable g] {x : R α} (h : ¬ g → x = .error .value) :
    (if g then .error .value else x) = .error .value := by
  split
  · rfl
  · exact h ‹_›

theorem guard_bind {α β : Type} {p : Prop} [Decidable p] (e : Err) (x : R α) (f : α → R β) :
    (if p then .error e else x) >>= f = if p then .error e else x >>= f := by split <;> rfl

theorem ite_or_same {α : Sort _} {p q : Prop} [Decidable p] [Decidable q] (x y : α) :
    (if p ∨ q then x else y) = if p then x else if q then x else y := by
  by_cases hp : p <;> by_cases hq : q <;> simp [hp, hq]

end Psec
