import PsecModel.Props.C07
import PsecModel.Spec.TR31
/-! psec's hand-built CMAC (subkeys through integer shifts, XOR into the last block, CBC-MAC with padding 1)
equals the SP 800-38B specification `Spec.cmac`. -/
namespace Psec.Tr31
open Psec.Spec

theorem shl_byte_fin : ∀ b : Fin 256,
    ((UInt8.ofNat b.val <<< 1) ||| 0) = UInt8.ofNat (2 * b.val) ∧
    ((UInt8.ofNat b.val <<< 1) ||| 1) = UInt8.ofNat (2 * b.val + 1) ∧
    ((UInt8.ofNat b.val &&& 0x80 ≠ 0) ↔ 128 ≤ b.val) ∧
    ((UInt8.ofNat b.val &&& 0x7F) <<< 1 = UInt8.ofNat b.val <<< 1) := by decide +kernel

theorem shl_byte (b : UInt8) :
    ((b <<< 1) ||| 0) = UInt8.ofNat (2 * b.toNat) ∧ ((b <<< 1) ||| 1) = UInt8.ofNat (2 * b.toNat + 1) ∧
    ((b &&& 0x80 ≠ 0) ↔ 128 ≤ b.toNat) ∧ ((b &&& 0x7F) <<< 1 = b <<< 1) := by
  have := shl_byte_fin ⟨b.toNat, b.toNat_lt⟩
  simpa using this

theorem shl1_carry (l : Bytes) : (shl1 l).2 = true ↔ 256 ^ l.length ≤ fromBytesBE l * 2 := by
  cases l with
  | nil => simp [shl1, fromBytesBE]
  | cons b r =>
    have hr := fromBytesBE_lt r
    have hb := (shl_byte b).2.2.1
    simp only [shl1, decide_eq_true_eq, hb, fromBytesBE_cons, List.length_cons, Nat.pow_succ]
    generalize 256 ^ r.length = P at *
    constructor
    · intro h
      have : 128 * P ≤ b.toNat * P := Nat.mul_le_mul_right _ h
      omega
    · intro h
      apply Classical.byContradiction
      intro hn
      have : b.toNat * P ≤ 127 * P := Nat.mul_le_mul_right _ (by omega)
      omega

/-- `Spec.shl1` computes the low `n` bytes of `2·V`. The multiple `q` of `256^n` is there for the induction: the head byte
of `b :: r` lands above the `n` bytes of `r`, where `toBytesBEAux` does not look, so no `mod` is needed. -/
theorem shl1_val (l : Bytes) (q : Nat) :
    toBytesBEAux l.length (fromBytesBE l * 2 + q * 256 ^ l.length) [] = (shl1 l).1 := by
  induction l generalizing q with
  | nil => rfl
  | cons b r ih =>
    have hr := fromBytesBE_lt r
    have hc := shl1_carry r
    obtain ⟨s0, s1, -, -⟩ := shl_byte b
    have e : fromBytesBE (b :: r) * 2 + q * 256 ^ (b :: r).length =
        fromBytesBE r * 2 + (2 * b.toNat + 256 * q) * 256 ^ r.length := by
      rw [fromBytesBE_cons, List.length_cons, Nat.pow_succ]
      grind
    have hP : 0 < 256 ^ r.length := Nat.pow_pos (by decide)
    rw [e, List.length_cons, toBytesBEAux_head, ih, Nat.add_mul_div_right _ _ hP]
    simp only [shl1]
    congr 1
    apply UInt8.toNat_inj.mp
    by_cases h : (shl1 r).2 = true
    · have : fromBytesBE r * 2 / 256 ^ r.length = 1 := by
        have := (Nat.le_div_iff_mul_le hP).mpr (by rw [Nat.one_mul]; exact hc.mp h)
        have := Nat.div_lt_of_lt_mul (show fromBytesBE r * 2 < 256 ^ r.length * 2 by omega)
        omega
      rw [this, h, if_pos rfl, s1, UInt8.toNat_ofNat', UInt8.toNat_ofNat']; omega
    · have : fromBytesBE r * 2 / 256 ^ r.length = 0 := Nat.div_eq_of_lt (by have := mt hc.mpr h; omega)
      rw [this, Bool.not_eq_true _ |>.mp h]
      simp only [Bool.false_eq_true, if_false, s0]
      rw [UInt8.toNat_ofNat', UInt8.toNat_ofNat']; omega

theorem shl1_length (l : Bytes) : (shl1 l).1.length = l.length := by
  rw [← shl1_val l 0, toBytesBEAux_length]

/-- psec's `shift_left_1` is the byte-wise shift with carry: the top bit it clears first is the one shifted out -/
theorem shiftLeft1_eq (l : Bytes) : shiftLeft1 l = (shl1 l).1 := by
  cases l with
  | nil => rfl
  | cons x r =>
    have h := shl1_val ((x &&& 0x7F) :: r) 0
    rw [Nat.zero_mul, Nat.add_zero] at h
    rw [shiftLeft1, show (x :: r).length = ((x &&& 0x7F) :: r).length from rfl, h]
    simp only [shl1, (shl_byte x).2.2.2]

/-- the right-hand side is how `dbl` writes it -/
theorem xor_last (l : Bytes) (R : UInt8) (hl : l ≠ []) :
    xorBytes l (List.replicate (l.length - 1) 0 ++ [R]) =
      (match l.reverse with | [] => [] | x :: r => ((x ^^^ R) :: r).reverse) := by
  obtain ⟨init, last, rfl⟩ : ∃ init last, l = init ++ [last] := ⟨l.dropLast, l.getLast hl, (List.dropLast_concat_getLast hl).symm⟩
  simp only [List.length_append, List.length_cons, List.length_nil, Nat.zero_add, Nat.add_sub_cancel, List.reverse_append,
    List.reverse_cons, List.reverse_nil, List.nil_append, List.cons_append, List.reverse_reverse]
  rw [xorBytes_append _ _ _ _ (by simp), xorBytes_zeros]
  rfl

theorem dbl_step (l : Bytes) (R : UInt8) (hl : l ≠ []) :
    (if (l.headD 0) &&& 0x80 ≠ 0 then Tools.xor (shiftLeft1 l) (List.replicate (l.length - 1) 0 ++ [R]) else shiftLeft1 l) = dbl R l ∧
    (dbl R l).length = l.length := by
  obtain ⟨b, r, rfl⟩ := List.exists_cons_of_ne_nil hl
  have hlen := shl1_length (b :: r)
  have hx := xor_last (shl1 (b :: r)).1 R (List.ne_nil_of_length_pos (by rw [hlen]; exact Nat.succ_pos _))
  rw [hlen] at hx
  have h : (if ((b :: r).headD 0) &&& 0x80 ≠ 0 then Tools.xor (shiftLeft1 (b :: r)) (List.replicate ((b :: r).length - 1) 0 ++ [R])
      else shiftLeft1 (b :: r)) = dbl R (b :: r) := by
    rw [shiftLeft1_eq, Tools.xor_eq, hx]
    -- `dbl` branches on the carry `decide (b &&& 0x80 ≠ 0)` that `shl1` returns
    by_cases hc : b &&& 0x80 ≠ 0
    · simp only [dbl, shl1, List.headD_cons, hc, decide_true, if_true, not_false_eq_true, ne_eq]; rfl
    · simp only [dbl, shl1, List.headD_cons, hc, decide_false, if_false, Bool.false_eq_true]
  refine ⟨h, ?_⟩
  rw [← h, shiftLeft1_eq, Tools.xor_eq]
  split <;> simp [hlen]

/-- `R` is the reduction constant: psec's `r64`, `r128` are `0 … 0 R` -/
theorem subkeysOf_eq (s : Bytes) (R : UInt8) (n : Nat) (hs : s.length = n + 1) :
    subkeysOf s (List.replicate n 0 ++ [R]) = (dbl R s, dbl R (dbl R s)) := by
  have hn : n = s.length - 1 := by omega
  have hne : ∀ l : Bytes, l.length = n + 1 → l ≠ [] := fun l h => List.ne_nil_of_length_pos (by omega)
  obtain ⟨k1e, k1l⟩ := dbl_step s R (hne s hs)
  rw [hs] at k1l
  obtain ⟨k2e, -⟩ := dbl_step (dbl R s) R (hne _ k1l)
  rw [k1l] at k2e
  rw [← hn] at k1e
  simp only [Nat.add_sub_cancel] at k2e
  simp only [subkeysOf, k1e, k2e]

theorem subkey_des (c : Ciphers) (hc : c.Lawful) (key : Bytes) (hk : tdesKeyOk key = true) :
    desCmacSubkey c key = .ok (dbl 0x1B (c.tdesE key (zeros 8)), dbl 0x1B (dbl 0x1B (c.tdesE key (zeros 8)))) := by
  rw [desCmacSubkey, Props.C19.tdes_ecb_enc_block c key _ hk rfl]
  exact congrArg Except.ok (subkeysOf_eq _ 0x1B 7 (hc.tdes_enc_len key (zeros 8) hk rfl))

theorem subkey_aes (c : Ciphers) (hc : c.Lawful) (key : Bytes) (hk : aesKeyOk key = true) :
    aesCmacSubkey c key = .ok (dbl 0x87 (c.aesE key (zeros 16)), dbl 0x87 (dbl 0x87 (c.aesE key (zeros 16)))) := by
  rw [aesCmacSubkey, Props.C19.aes_ecb_enc_block c key _ hk rfl]
  exact congrArg Except.ok (subkeysOf_eq _ 0x87 15 (hc.aes_enc_len key (zeros 16) hk rfl))

theorem cmac_aligned (E : Bytes → Bytes) (bs n : Nat) (hbs : 0 < bs) (M : Bytes) (hM : M.length = (n + 1) * bs) :
    Spec.cmac E bs M = Spec.chain E (Spec.zeroBytes bs)
      (Spec.blocksOf bs (M.take (n * bs)).length (M.take (n * bs)) ++ [xorBytes (M.drop (n * bs)) (dbl (Spec.rbOf bs) (E (Spec.zeroBytes bs)))]) := by
  have hMne : M ≠ [] := List.ne_nil_of_length_pos (by rw [hM, Nat.succ_mul]; omega)
  have hmod : M.length % bs = 0 := by rw [hM]; simp
  have hn : (M.length + bs - 1) / bs = n + 1 := by
    rw [hM]; exact Nat.div_eq_of_lt_le (by omega) (by rw [Nat.succ_mul (n + 1)]; omega)
  simp only [Spec.cmac]
  rw [if_neg hMne, hn, if_pos ⟨hMne, hmod⟩]
  simp only [Nat.add_sub_cancel]

/-- psec's `_b_generate_mac` / `_d_generate_mac` construction: on whole blocks SP 800-38B CMAC is the untruncated MAC algorithm 1
of the message with `K1` XORed into its last block -/
theorem cmac_eq_mac1 (E : Bytes → Bytes) (bs : Nat) (hbs : 0 < bs) (hE : ∀ b, b.length = bs → (E b).length = bs)
    (M : Bytes) (hM : Props.C19.DataOk bs M) :
    Spec.cmac E bs M =
      Spec.mac1 E bs (dropLastN M bs ++ xorBytes (lastN M bs) (dbl (Spec.rbOf bs) (E (Spec.zeroBytes bs)))) bs := by
  obtain ⟨n, _, hn⟩ := exists_blocks hM.1 hM.2
  have hsub : M.length - bs = n * bs := by rw [hn, Nat.succ_mul]; omega
  have hbody : (dropLastN M bs).length = n * bs := by rw [dropLastN, List.length_take]; omega
  have hlast : (xorBytes (lastN M bs) (dbl (Spec.rbOf bs) (E (Spec.zeroBytes bs)))).length = bs := by
    rw [xorBytes_length, lastN_length M bs (by rw [hn, Nat.succ_mul]; omega)]
  rw [cmac_aligned E bs n hbs M hn, ← hsub, chain_append, Spec.mac1, chain_blocksOf_snoc E _ bs hbs n _ _ hbody hlast]
  exact (List.take_of_length_le (Nat.le_of_eq (hE _ (by rw [xorBytes_length]; exact hlast)))).symm

theorem cmac_block (E : Bytes → Bytes) (bs : Nat) (hbs : 0 < bs) (hE : ∀ b, b.length = bs → (E b).length = bs)
    (M : Bytes) (hM : M.length = bs) :
    Spec.cmac E bs M = E (xorBytes M (dbl (Spec.rbOf bs) (E (Spec.zeroBytes bs)))) := by
  rw [cmac_eq_mac1 E bs hbs hE M ⟨by omega, by rw [hM, Nat.mod_self]⟩]
  simp only [dropLastN, lastN, hM, Nat.sub_self, List.take_zero, List.drop_zero, List.nil_append]
  exact Props.C07.mac1_block E bs hbs hE _ (by rw [xorBytes_length, hM])

/-- a message shorter than a block takes `10*` padding and `K2`: what `_d_derive` writes out by hand for its 8-byte input -/
theorem cmac_short (E : Bytes → Bytes) (bs : Nat) (M : Bytes) (h0 : M ≠ []) (hM : M.length < bs) :
    Spec.cmac E bs M = E (xorBytes (M ++ [0x80] ++ Spec.zeroBytes (bs - M.length - 1))
      (dbl (Spec.rbOf bs) (dbl (Spec.rbOf bs) (E (Spec.zeroBytes bs))))) := by
  have hpos : 0 < M.length := List.length_pos_iff.mpr h0
  have h1 : (M.length + bs - 1) / bs = 1 := Nat.div_eq_of_lt_le (by omega) (by omega)
  have hnc : ¬ (M ≠ [] ∧ M.length % bs = 0) := by rw [Nat.mod_eq_of_lt hM]; omega
  simp only [Spec.cmac]
  rw [if_neg h0, h1, if_neg hnc]
  simp only [Nat.sub_self, Nat.zero_mul, List.take_zero, List.drop_zero, List.length_nil, Spec.blocksOf, List.nil_append, Spec.chain]
  unfold Spec.zeroBytes
  rw [xorBytes_zeros]

theorem cmac_half_block_aes (E : Bytes → Bytes) (M : Bytes) (hM : M.length = 8) :
    Spec.cmac E 16 M = E (xorBytes (M ++ [0x80, 0, 0, 0, 0, 0, 0, 0]) (dbl 0x87 (dbl 0x87 (E (Spec.zeroBytes 16))))) := by
  rw [cmac_short E 16 M (List.ne_nil_of_length_pos (by omega)) (by omega), hM, List.append_assoc]; rfl

theorem cmacOver_eq (c : Ciphers) (alg : Mac.Algo) (bs : Nat) (E : Bytes → Bytes) (enc : Bytes → Bytes → R Bytes)
    (kbak : Bytes) (hdr : PyStr) (hb kd : Bytes) (hbs : 0 < bs) (hE : ∀ b, b.length = bs → (E b).length = bs)
    (hmac : ∀ P, Mac.generateCbcMac c kbak P 1 (some (bs : Int)) (some alg) = Props.C07.cbcMacWith bs enc P 1 (some (bs : Int)))
    (henc : ∀ P, Props.C19.DataOk bs P → enc (Mac.zeros bs) P = .ok (cbcEncUpdate E bs (P.length / bs) (Mac.zeros bs) P).1)
    (hea : encodeAscii hdr = some hb) (hM : Props.C19.DataOk bs (hb ++ kd)) :
    cmacOver c alg bs (dbl (Spec.rbOf bs) (E (Spec.zeroBytes bs))) kbak hdr kd = .ok (Spec.cmac E bs (hb ++ kd)) := by
  simp only [cmacOver, hea, hmac, Tools.xor_eq]
  rw [Props.C07.cbcMacWith_eq_mac1 hbs hE henc (Or.inl rfl) nofun bs, cmac_eq_mac1 E bs hbs hE _ hM]
  congr 2
  refine Props.C08.pad1_aligned _ bs ?_
  have : (dropLastN (hb ++ kd) bs ++ xorBytes (lastN (hb ++ kd) bs) (dbl (Spec.rbOf bs) (E (Spec.zeroBytes bs)))).length =
      (hb ++ kd).length := by
    simp only [dropLastN, lastN, List.length_append, xorBytes_length, List.length_take, List.length_drop]
    omega
  rw [this]
  exact hM

theorem bGenerateMac_eq_cmac (c : Ciphers) (hc : c.Lawful) (kbak : Bytes) (hdr : PyStr) (hb kd : Bytes)
    (hk : tdesKeyOk kbak = true) (hea : encodeAscii hdr = some hb)
    (hlen : 8 ≤ (hb ++ kd).length) (hmod : (hb ++ kd).length % 8 = 0) :
    bGenerateMac c kbak hdr kd = .ok (Spec.cmac (c.tdesE kbak) 8 (hb ++ kd)) := by
  rw [bGenerateMac, subkey_des c hc kbak hk]
  exact cmacOver_eq c .des 8 (c.tdesE kbak) (Des.encryptTdesCbc c kbak) kbak hdr hb kd (by decide) (hc.tdes_ed kbak hk).enc_len
    (fun P => Props.C07.generateCbcMac_des c kbak P 1 _ _ (Or.inr rfl)) (Props.C19.tdes_cbc_enc_ok c kbak _ · hk rfl)
    hea ⟨by omega, hmod⟩

theorem dGenerateMac_eq_cmac (c : Ciphers) (hc : c.Lawful) (kbak : Bytes) (hdr : PyStr) (hb kd : Bytes)
    (hk : aesKeyOk kbak = true) (hea : encodeAscii hdr = some hb)
    (hlen : 16 ≤ (hb ++ kd).length) (hmod : (hb ++ kd).length % 16 = 0) :
    dGenerateMac c kbak hdr kd = .ok (Spec.cmac (c.aesE kbak) 16 (hb ++ kd)) := by
  rw [dGenerateMac, subkey_aes c hc kbak hk]
  exact cmacOver_eq c .aes 16 (c.aesE kbak) (Aes.encryptAesCbc c kbak) kbak hdr hb kd (by decide) (hc.aes_ed kbak hk).enc_len
    (fun P => Props.C07.generateCbcMac_aes c kbak P 1 _) (Props.C19.aes_cbc_enc_ok c kbak _ · hk rfl)
    hea ⟨by omega, hmod⟩

end Psec.Tr31
