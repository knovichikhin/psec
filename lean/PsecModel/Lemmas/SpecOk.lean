import PsecModel.Lemmas.Result
import PsecModel.Spec.TR31
/-! When `Spec.TR31.unwrap` succeeds: its chain of guards as one conjunction, in its order. -/
namespace Psec.Tr31
open Psec.Spec.TR31

/-- the clear key data the specification recovers -/
def specClear (c : Ciphers) (v : Nat) (kbpk : Bytes) (hdr : PyStr) (enc t : Bytes) : Bytes :=
  if v = 68 then (cbcDec (c.aesD (deriveKeys c v kbpk).fst) t (splitBlocks (bsOf v) enc.length enc)).flatten
  else if v = 66 then (cbcDec (c.tdesD (deriveKeys c v kbpk).fst) t (splitBlocks (bsOf v) enc.length enc)).flatten
  else (cbcDec (c.tdesD (deriveKeys c v kbpk).fst) ((asciiBytes hdr).take 8) (splitBlocks (bsOf v) enc.length enc)).flatten

/-- the header the specification reads off a string with the given parsed blocks -/
def specHeader (s : PyStr) (blocks : List (PyStr × PyStr)) : Header :=
  { versionId := [s.headD 0], keyUsage := (s.drop 5).take 2, algorithm := (s.drop 7).take 1,
    modeOfUse := (s.drop 8).take 1, versionNum := (s.drop 9).take 2, exportability := (s.drop 11).take 1,
    reserved := (s.drop 14).take 2, blocks := blocks.filter (fun b => b.1 ≠ [80, 66]) }

theorem specUnwrap_some_iff (c : Ciphers) (kbpk : Bytes) (s : PyStr) (h : Header) (key : Bytes) :
    Spec.TR31.unwrap c kbpk s = some (h, key) ↔
      16 ≤ s.length ∧ (s.take 16).all isAlnumC = true ∧
      (s.headD 0 = 65 ∨ s.headD 0 = 66 ∨ s.headD 0 = 67 ∨ s.headD 0 = 68) ∧ kbpkOk (s.headD 0) kbpk = true ∧
      ∃ cnt, dec? ((s.drop 1).take 4) = some s.length ∧ dec? ((s.drop 12).take 2) = some cnt ∧ s.length % bsOf (s.headD 0) = 0 ∧
      ∃ blocks rest, parseBlocks cnt (s.drop 16) = some (blocks, rest) ∧
        2 * macLenOf (s.headD 0) + 2 * bsOf (s.headD 0) ≤ rest.length ∧
      ∃ enc t, hexBytes? (rest.take (rest.length - 2 * macLenOf (s.headD 0))) = some enc ∧
        hexBytes? (rest.drop (rest.length - 2 * macLenOf (s.headD 0))) = some t ∧ enc.length % bsOf (s.headD 0) = 0 ∧
        tag c (s.headD 0) (deriveKeys c (s.headD 0) kbpk).snd (s.take (s.length - rest.length))
          (specClear c (s.headD 0) kbpk (s.take (s.length - rest.length)) enc t) enc = t ∧
        fromBytesBE ((specClear c (s.headD 0) kbpk (s.take (s.length - rest.length)) enc t).take 2) % 8 = 0 ∧
        fromBytesBE ((specClear c (s.headD 0) kbpk (s.take (s.length - rest.length)) enc t).take 2) / 8 + 2 ≤
          (specClear c (s.headD 0) kbpk (s.take (s.length - rest.length)) enc t).length ∧
        key = ((specClear c (s.headD 0) kbpk (s.take (s.length - rest.length)) enc t).drop 2).take
          (fromBytesBE ((specClear c (s.headD 0) kbpk (s.take (s.length - rest.length)) enc t).take 2) / 8) ∧
        h = specHeader s blocks := by
  unfold Spec.TR31.unwrap
  simp only [guard_eq_some, Decidable.not_not]
  generalize hv : s.headD 0 = v
  rw [← and_assoc (a := 16 ≤ s.length)]
  refine and_congr (not_or.trans (and_congr Nat.not_lt Decidable.not_not)) (and_congr_right fun _ => and_congr_right fun _ => ?_)
  cases hd1 : dec? ((s.drop 1).take 4) with
  | none => simp
  | some total =>
    cases hd2 : dec? ((s.drop 12).take 2) with
    | none => simp
    | some cnt =>
      simp only [guard_eq_some, Option.some.injEq, exists_and_left, exists_eq_left', not_or, Decidable.not_not, and_assoc]
      refine and_congr_right fun e => ?_
      subst e
      refine and_congr_right fun _ => ?_
      cases hpb : parseBlocks cnt (s.drop 16) with
      | none => simp
      | some q =>
        obtain ⟨blocks, rest⟩ := q
        simp only [guard_eq_some, Option.some.injEq, Prod.mk.injEq, Nat.not_lt, exists_and_left, exists_eq_left', and_assoc]
        refine and_congr_right fun _ => ?_
        cases he : hexBytes? (rest.take (rest.length - 2 * macLenOf v)) with
        | none => simp
        | some enc =>
          cases ht : hexBytes? (rest.drop (rest.length - 2 * macLenOf v)) with
          | none => simp
          | some t =>
            simp only [guard_eq_some, Option.some.injEq, Prod.mk.injEq, exists_eq_left', and_assoc, Decidable.not_not, not_or]
            unfold specClear specHeader
            rw [hv]
            exact and_congr_right fun _ => and_congr_right fun _ => and_congr_right fun _ =>
              and_congr Nat.not_lt (and_comm.trans (and_congr eq_comm eq_comm))

end Psec.Tr31
