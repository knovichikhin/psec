import PsecModel.Lemmas.BlockEnc
/-!
The specification's `parseBlocks` and psec's `loadLoop` are the same step function over `blockLen`, so they agree on every string
(`loadLoop_parseBlocks`). What they do on a header's section (the builder's blocks in any length form, then at most one pad block)
is therefore proved for the parser (`specParse_section`) and carried over to the loader (`blocksLoad_parsed`).
-/
namespace Psec.Tr31
open Psec.Spec.TR31

/-- whatever fails, the parser answers `none`, so its checks can be taken in the order of `loadLoop_step` -/
theorem parseBlocks_step (n : Nat) (rest : PyStr) :
    parseBlocks (n + 1) rest =
      if (rest.take 2).length ≠ 2 then none else
      match blockLen rest with
      | none => none
      | some (o, dl) =>
        if ((rest.drop o).take dl).length ≠ dl then none else
        if ¬ asciiAlnum (rest.take 2) ∨ ¬ asciiPrintable ((rest.drop o).take dl) then none else
        match parseBlocks n (rest.drop (o + dl)) with
        | none => none
        | some (bl, rest') => some ((rest.take 2, (rest.drop o).take dl) :: bl, rest') := by
  rw [parseBlocks]
  unfold asciiAlnum asciiPrintable
  simp only [ite_or_same]
  by_cases hid : (rest.take 2).length ≠ 2
  · rw [if_pos hid, if_pos hid]
  rw [if_neg hid, if_neg hid]
  by_cases hal : (rest.take 2).all isAlnumC = true
  case neg =>
    rw [if_pos hal]
    cases blockLen rest with
    | none => rfl
    | some p => simp only [if_pos hal, ite_self]
  rw [if_neg (not_not_intro hal)]
  simp only [if_neg (not_not_intro hal), hex2?_eq, blockLen, extLen]
  cases hexField 2 ((rest.drop 2).take 2) with
  | none => rfl
  | some l =>
    cases l with
    | succ l' =>
      simp only [Option.bind_some, Nat.succ_ne_zero, if_false, Nat.add_zero, Nat.sub_zero]
      by_cases h4 : l' + 1 < 4
      · rw [if_pos h4, if_pos h4]
      rw [if_neg h4, if_neg h4]
      simp only []
      rw [show 4 + (l' + 1 - 4) = l' + 1 by omega]
      rfl
    | zero =>
      simp only [Option.bind_some, if_true, List.drop_drop]
      cases hexField 2 ((rest.drop 4).take 2) with
      | none => rfl
      | some ll =>
        simp only [Option.bind_some]
        by_cases hll : ll = 0
        · rw [if_pos hll, if_pos hll]; rfl
        rw [if_neg hll, if_neg hll]
        by_cases hlf : ((rest.drop 6).take (2 * ll)).length = 2 * ll
        · rw [if_neg (not_not_intro hlf), hexNat?_eq (2 * ll) _ (by omega) hlf]
          cases hexField (2 * ll) ((rest.drop 6).take (2 * ll)) with
          | none => rfl
          | some total =>
            simp only [Option.bind_some]
            by_cases ht : total < 6 + 2 * ll
            · rw [if_pos ht, if_pos (show total < 4 + (2 + 2 * ll) by omega)]
            rw [if_neg ht, if_neg (show ¬ total < 4 + (2 + 2 * ll) by omega)]
            rw [show 4 + (2 + 2 * ll) = 6 + 2 * ll by omega, show total - 4 - (2 + 2 * ll) = total - 6 - 2 * ll by omega]
            rfl
        · rw [if_pos hlf, hexField, if_pos (.inl hlf)]; rfl

/-- what psec stores for a parsed block list: pad-block ids (any letter case) are skipped, a repeated id overwrites in place -/
def storeBlocks (bl : List (PyStr × PyStr)) (acc : Dict) : Dict :=
  bl.foldl (fun d b => if isPB b.1 then d else dictSet d b.1 b.2) acc

theorem storeBlocks_cons (id data : PyStr) (bl : List (PyStr × PyStr)) (acc : Dict) :
    storeBlocks ((id, data) :: bl) acc = storeBlocks bl (if isPB id then acc else dictSet acc id data) := by
  unfold storeBlocks; rfl

/-- C03 on the optional blocks, both directions in one induction: psec's loader fails exactly where the specification's parser
rejects, and otherwise has consumed the same characters and stored `storeBlocks` of the parsed list -/
theorem loadLoop_parseBlocks : ∀ (n : Nat) (rest : PyStr) (i : Nat) (acc : Dict),
    match parseBlocks n rest with
    | none => ∃ e, (loadLoop n rest i acc).1 = .error e
    | some (bl, rest') => ∃ k, k ≤ rest.length ∧ rest' = rest.drop k ∧ loadLoop n rest i acc = (.ok (i + k), storeBlocks bl acc)
  | 0, rest, i, acc => by
    simp only [parseBlocks, loadLoop]
    exact ⟨0, Nat.zero_le _, rfl, rfl⟩
  | n + 1, rest, i, acc => by
    rw [parseBlocks_step, loadLoop_step]
    by_cases hid : (rest.take 2).length ≠ 2
    · rw [if_pos hid, if_pos hid]; exact ⟨_, rfl⟩
    rw [if_neg hid, if_neg hid]
    cases hb : blockLen rest with
    | none => exact ⟨_, rfl⟩
    | some p =>
      obtain ⟨o, dl⟩ := p
      simp only []
      by_cases hdl : ((rest.drop o).take dl).length ≠ dl
      · rw [if_pos hdl, if_pos hdl]; exact ⟨_, rfl⟩
      rw [if_neg hdl, if_neg hdl]
      by_cases hck : ¬ asciiAlnum (rest.take 2) = true ∨ ¬ asciiPrintable ((rest.drop o).take dl) = true
      · rw [if_pos hck, if_pos hck]; exact ⟨_, rfl⟩
      rw [if_neg hck, if_neg hck]
      have ih := loadLoop_parseBlocks n (rest.drop (o + dl)) (i + o + dl)
        (if isPB (rest.take 2) then acc else dictSet acc (rest.take 2) ((rest.drop o).take dl))
      cases hp : parseBlocks n (rest.drop (o + dl)) with
      | none => rw [hp] at ih; exact ih
      | some q =>
        rw [hp] at ih
        obtain ⟨k, hk, hr, hl⟩ := ih
        have hol := (blockLen_spec rest o dl hb).2.1
        rw [List.length_take, List.length_drop] at hdl
        rw [List.length_drop] at hk
        refine ⟨o + dl + k, by omega, by rw [hr, List.drop_drop], ?_⟩
        rw [hl, storeBlocks_cons, Nat.add_assoc i, Nat.add_assoc i]

theorem specParse_enc_one (id data tail : PyStr) (form n : Nat) (hb : BlockOK id data) (hf : FormOK data form)
    (bl : List (PyStr × PyStr)) (rest : PyStr) (hp : parseBlocks n tail = some (bl, rest)) :
    parseBlocks (n + 1) (encodeBlock id data form ++ tail) = some ((id, data) :: bl, rest) := by
  obtain ⟨o, -, htk, hbl, hdt, hdd⟩ := encodeBlock_read id data tail form hb.idlen hf
  rw [parseBlocks_step, hbl]
  simp only [htk, hdt, hdd, hp, hb.idlen, hb.idan, hb.dpr, ne_eq, not_true_eq_false, or_self, if_false]

theorem specParse_encs : ∀ (d : Dict) (forms : List Nat) (tail : PyStr) (n : Nat), (∀ p ∈ d, BlockOK p.1 p.2) → FormsOK d forms →
    ∀ (bl : List (PyStr × PyStr)) (rest : PyStr), parseBlocks n tail = some (bl, rest) →
    parseBlocks (d.length + n) (encodeBlocks d forms ++ tail) = some (d ++ bl, rest)
  | [], _, tail, n, _, _, bl, rest, hp => by simpa [encodeBlocks] using hp
  | (id, data) :: r, forms, tail, n, hb, hf, bl, rest, hp => by
    obtain ⟨hf1, hf2⟩ := (FormsOK_cons id data r forms).mp hf
    rw [encodeBlocks_cons, List.append_assoc, List.length_cons, Nat.add_right_comm]
    exact specParse_enc_one id data _ _ (r.length + n) (hb (id, data) (by simp)) hf1 (r ++ bl) rest
      (specParse_encs r _ tail n (fun p hp' => hb p (by simp [hp'])) hf2 bl rest hp)

theorem specParse_all : ∀ (d : Dict) (body tail : PyStr) (n : Nat), (∀ p ∈ d, BlockOK p.1 p.2) → dumpAll d = .ok body →
    ∀ (bl : List (PyStr × PyStr)) (rest : PyStr), parseBlocks n tail = some (bl, rest) →
    parseBlocks (d.length + n) (body ++ tail) = some (d ++ bl, rest) := by
  intro d body tail n hb hd bl rest hp
  obtain ⟨forms, hf, rfl⟩ := dumpAll_encode d body hd
  exact specParse_encs d forms tail n hb hf bl rest hp

theorem specParse_padBlock (p : Nat) (hp : 4 + p ≤ 255) (tail : PyStr) :
    parseBlocks 1 ([80, 66] ++ natHex 2 (4 + p) ++ List.replicate p 48 ++ tail) = some ([([80, 66], List.replicate p 48)], tail) := by
  obtain ⟨he, hb, hf⟩ := padBlock_encode p hp
  rw [he]
  exact specParse_enc_one [80, 66] _ tail 0 0 hb hf [] tail rfl

theorem specParse_pad (p : Nat) (hp : p ≤ 16) (tail : PyStr) :
    parseBlocks 1 ([80, 66] ++ hex2U (4 + p) ++ zerosS p ++ tail) = some ([([80, 66], zerosS p)], tail) :=
  natHex2_eq (4 + p) (by omega) ▸ specParse_padBlock p (by omega) tail

/-- `isPB` ignores letter case and the filter does not: hence the first hypothesis -/
theorem storeBlocks_canon : ∀ (bl : List (PyStr × PyStr)) (acc : Dict),
    (∀ b ∈ bl, isPB b.1 = true → b.1 = [80, 66]) →
    ((acc ++ bl.filter (fun b => b.1 ≠ [80, 66])).map Prod.fst).Nodup →
    storeBlocks bl acc = acc ++ bl.filter (fun b => b.1 ≠ [80, 66])
  | [], acc, _, _ => by simp [storeBlocks]
  | (id, data) :: r, acc, hpb, hnd => by
    have hr := fun b hb => hpb b (List.mem_cons_of_mem _ hb)
    rw [storeBlocks_cons]
    by_cases h : isPB id = true
    · have e : id = [80, 66] := hpb (id, data) (List.mem_cons_self ..) h
      rw [List.filter_cons_of_neg (by simp [e])] at hnd ⊢
      rw [if_pos h]
      exact storeBlocks_canon r acc hr hnd
    · have hne : id ≠ [80, 66] := fun e => h (e ▸ isPB_PB)
      rw [List.filter_cons_of_pos (by simpa using hne)] at hnd ⊢
      have hfresh : id ∉ acc.map Prod.fst := fun hin => by
        rw [List.map_append, List.map_cons] at hnd
        exact (List.nodup_append.mp hnd).2.2 id hin id (List.mem_cons_self ..) rfl
      rw [if_neg h, dictSet_fresh acc id data hfresh,
        storeBlocks_canon r (acc ++ [(id, data)]) hr (by simpa [List.append_assoc] using hnd), List.append_assoc]
      rfl

theorem blocksLoad_parsed (cnt : Nat) (x : PyStr) (bl : List (PyStr × PyStr)) (rest : PyStr)
    (hp : parseBlocks cnt x = some (bl, rest)) (hpb : ∀ b ∈ bl, isPB b.1 = true → b.1 = [80, 66])
    (hids : ((bl.filter (fun b => b.1 ≠ [80, 66])).map Prod.fst).Nodup) :
    ∃ k, k ≤ x.length ∧ rest = x.drop k ∧ blocksLoad cnt x = (.ok k, bl.filter (fun b => b.1 ≠ [80, 66])) := by
  have h := loadLoop_parseBlocks cnt x 0 []
  rw [hp] at h
  obtain ⟨k, hk, hr, hl⟩ := h
  refine ⟨k, hk, hr, ?_⟩
  rw [blocksLoad, hl, Nat.zero_add, storeBlocks_canon bl [] hpb (by simpa using hids), List.nil_append]

/-- what may follow a header's blocks in its section: nothing, or one pad block of zeros; `cnt` is what it adds to the count -/
def PadSection (cnt : Nat) (pad : PyStr) : Prop :=
  (cnt = 0 ∧ pad = []) ∨ ∃ p, 4 + p ≤ 255 ∧ cnt = 1 ∧ pad = [80, 66] ++ natHex 2 (4 + p) ++ List.replicate p 48

theorem specParse_section (d : Dict) (forms : List Nat) (cnt : Nat) (pad tail : PyStr)
    (hb : ∀ p ∈ d, BlockOK p.1 p.2) (hf : FormsOK d forms) (hpad : PadSection cnt pad) :
    ∃ padl, parseBlocks (d.length + cnt) (encodeBlocks d forms ++ (pad ++ tail)) = some (d ++ padl, tail) ∧
      (padl = [] ∨ ∃ z, padl = [([80, 66], z)]) := by
  rcases hpad with ⟨rfl, rfl⟩ | ⟨p, hp, rfl, rfl⟩
  · exact ⟨[], specParse_encs d forms _ 0 hb hf [] tail rfl, .inl rfl⟩
  · exact ⟨_, specParse_encs d forms _ 1 hb hf _ _ (specParse_padBlock p hp tail), .inr ⟨_, rfl⟩⟩

theorem padBlock_section (bs bodyLen padMode : Nat) (hps : 4 + padSize bs bodyLen padMode ≤ 255) :
    PadSection (padBlock bs bodyLen padMode).2 (padBlock bs bodyLen padMode).1 := by
  unfold padBlock
  split
  · exact .inr ⟨_, hps, rfl, rfl⟩
  · exact .inl ⟨rfl, rfl⟩

theorem filter_noPad (d padl : List (PyStr × PyStr)) (hnp : ∀ p ∈ d, isPB p.1 = false)
    (hpadl : padl = [] ∨ ∃ z, padl = [([80, 66], z)]) :
    (d ++ padl).filter (fun b => decide (b.1 ≠ [80, 66])) = d := by
  have h1 : d.filter (fun b => decide (b.1 ≠ [80, 66])) = d :=
    List.filter_eq_self.mpr fun p hp => by
      simp only [decide_eq_true_eq]
      exact fun e => absurd (e ▸ hnp p hp) (by decide)
  have h2 : padl.filter (fun b => decide (b.1 ≠ [80, 66])) = [] := by
    rcases hpadl with rfl | ⟨z, rfl⟩ <;> simp
  rw [List.filter_append, h1, h2, List.append_nil]

end Psec.Tr31
