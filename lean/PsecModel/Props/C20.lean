import PsecModel.Model.Des
import PsecModel.Lemmas.Xor
import PsecModel.Lemmas.Bytes
/-!
# C20 — key parity, key variants and bit helpers are exact
-/
namespace Psec.Props.C20

/-- XOR of the low `n` bits of `v`: the bit-count parity of `v mod 2^n` -/
def parityBits (v : Nat) : Nat → Bool
  | 0 => false
  | n+1 => (parityBits v n) ^^ v.testBit n

/-- `0x6996` is the parity table of the sixteen nibbles, bit `w` for nibble `w` (`0110 1001 1001 0110`) -/
theorem nibble_parity (w : Nat) (h : w < 16) : (0x6996 >>> w) &&& 1 = (parityBits w 4).toNat :=
  (by decide : ∀ w : Fin 16, (0x6996 >>> w.val) &&& 1 = (parityBits w.val 4).toNat) ⟨w, h⟩

theorem parity_xor (a b n : Nat) : parityBits (a ^^^ b) n = (parityBits a n ^^ parityBits b n) := by
  induction n with
  | zero => simp [parityBits]
  | succ n ih => simp only [parityBits, ih, Nat.testBit_xor]; cases parityBits a n <;> cases parityBits b n <;> cases a.testBit n <;> cases b.testBit n <;> rfl

theorem parity_split (v n m : Nat) : parityBits v (n + m) = (parityBits v n ^^ parityBits (v >>> n) m) := by
  induction m with
  | zero => simp [parityBits]
  | succ m ih =>
    rw [← Nat.add_assoc]; simp only [parityBits, ih, Nat.testBit_shiftRight]
    cases parityBits v n <;> cases parityBits (v >>> n) m <;> cases v.testBit (n+m) <;> rfl

theorem parity_fold (v n : Nat) : parityBits (v ^^^ (v >>> n)) n = parityBits v (n + n) := by
  rw [parity_xor, parity_split]

theorem parity_and15 (v : Nat) : parityBits (v &&& 15) 4 = parityBits v 4 := by
  have : Nat.testBit 15 1 = true ∧ Nat.testBit 15 2 = true ∧ Nat.testBit 15 3 = true := by decide
  simp [parityBits, Nat.testBit_and, this]

/-- **The parity helper equals the bit-count parity** of the low 32 bits, for every natural number
(hence for every 32-bit value it is the parity of the whole value). -/
theorem oddParity_spec (v : Nat) : Tools.oddParity v = (parityBits v 32).toNat := by
  have lt16 (x : Nat) : x &&& 0xF < 16 := Nat.lt_succ_of_le Nat.and_le_right
  -- each `x ^^^ x >>> n` folds the parity of `2n` bits into the low `n`: after 16, 8, 4 the low nibble has that of all 32
  rw [Tools.oddParity, nibble_parity _ (lt16 _), parity_and15, parity_fold, parity_fold, parity_fold]

theorem parityBits_of_lt (v m n : Nat) (h : v < 2 ^ m) (hn : m ≤ n) : parityBits v n = parityBits v m := by
  obtain ⟨k, rfl⟩ := Nat.exists_eq_add_of_le hn
  induction k with
  | zero => rfl
  | succ k ih =>
    rw [← Nat.add_assoc, parityBits, ih (Nat.le_add_right _ _),
      Nat.testBit_lt_two_pow (Nat.lt_of_lt_of_le h (Nat.pow_le_pow_right (by decide) (Nat.le_add_right _ _))), Bool.xor_false]

/-- for a 32-bit value `parityBits v 32` is the parity of all its bits -/
theorem parityBits_stable (v n : Nat) (h : v < 2 ^ 32) (hn : 32 ≤ n) : parityBits v n = parityBits v 32 :=
  parityBits_of_lt v 32 n h hn

/-- `tools.xor` returns `data[i] ^ mask[i]` wherever the mask has a byte, ignores surplus mask bytes, and is as long as the data -/
theorem xor_spec (data mask : Bytes) :
    (Tools.xor data mask).length = data.length ∧
    (∀ i (h : i < data.length), (Tools.xor data mask)[i]? =
      some (if h2 : i < mask.length then data[i] ^^^ mask[i] else data[i])) ∧
    Tools.xor data mask = Tools.xor data (mask.take data.length) := by
  rw [Tools.xor_eq, Tools.xor_eq]
  refine ⟨xorBytes_length _ _, ?_, (xorBytes_take _ _).symm⟩
  intro i h
  rw [List.getElem?_eq_getElem (by simpa using h), xorBytes_getElem _ _ _ h]

def adjByte (b : UInt8) : UInt8 := if Tools.oddParity b.toNat = 0 then b ^^^ 1 else b

/-- number of one bits of a byte is odd -/
def oddBits (b : UInt8) : Bool := parityBits b.toNat 8

theorem oddParity_byte (b : UInt8) : Tools.oddParity b.toNat = (oddBits b).toNat := by
  rw [oddParity_spec, parityBits_of_lt _ 8 32 b.toNat_lt (by decide), oddBits]

theorem adjByte_spec (b : UInt8) :
    oddBits (adjByte b) = true ∧ (adjByte b ^^^ b) &&& 0xFE = 0 ∧ adjByte (adjByte b) = adjByte b := by
  have odd : ∀ c, oddBits c = true → adjByte c = c := fun c h => by simp [adjByte, oddParity_byte, h]
  have flip : oddBits (b ^^^ 1) = !oddBits b := by
    rw [oddBits, UInt8.toNat_xor, parity_xor, oddBits]; cases parityBits b.toNat 8 <;> rfl
  cases h : oddBits b with
  | true => rw [odd b h, h, UInt8.xor_self]; exact ⟨rfl, rfl, odd b h⟩
  | false =>
    have e : adjByte b = b ^^^ 1 := by simp [adjByte, oddParity_byte, h]
    have h1 : oddBits (b ^^^ 1) = true := by rw [flip, h]; rfl
    rw [e, h1, odd _ h1, UInt8.xor_comm b 1, UInt8.xor_assoc, UInt8.xor_self]
    exact ⟨rfl, rfl, rfl⟩

/-- **Parity adjustment**: same length; every byte has odd parity and differs from the input at most in
its lowest bit (so the 7 effective bits of every byte are untouched); idempotent. For keys of any length. -/
theorem adjustParity_spec (key : Bytes) :
    (Des.adjustKeyParity key).length = key.length ∧
    (∀ i (h : i < key.length),
      oddBits ((Des.adjustKeyParity key)[i]'(by simpa [Des.adjustKeyParity] using h)) = true ∧
      ((Des.adjustKeyParity key)[i]'(by simpa [Des.adjustKeyParity] using h) ^^^ key[i]) &&& 0xFE = 0) ∧
    Des.adjustKeyParity (Des.adjustKeyParity key) = Des.adjustKeyParity key := by
  have hm : ∀ k : Bytes, Des.adjustKeyParity k = k.map adjByte := fun _ => rfl
  refine ⟨by simp [hm], fun i h => ?_, ?_⟩
  · simp only [hm, List.getElem_map]
    exact ⟨(adjByte_spec _).1, (adjByte_spec _).2.1⟩
  · rw [hm, hm, List.map_map]
    exact List.map_congr_left fun b _ => (adjByte_spec b).2.2

/-- the mask `(8·v, 0,0,0,0,0,0,0)` repeated once per 8-byte key component -/
def variantMask (v : Nat) (n : Nat) : Bytes := Des.repeatBytes (UInt8.ofNat (8 * v) :: List.replicate 7 0) n

/-- **Key variant**: for a key of 8/16/24 bytes and `0 ≤ v ≤ 31` the result is the key XOR the variant mask; any other length
or variant is `ValueError`. -/
theorem applyVariant_spec (key : Bytes) (v : Int) :
    Des.applyKeyVariant key v =
      if (key.length = 8 ∨ key.length = 16 ∨ key.length = 24) ∧ 0 ≤ v ∧ v ≤ 31
      then .ok (xorBytes key (variantMask v.toNat (key.length / 8)))
      else .error .value := by
  unfold Des.applyKeyVariant
  by_cases hk : key.length = 8 ∨ key.length = 16 ∨ key.length = 24
  · by_cases hv : v < 0 ∨ v > 31
    · have : ¬ (0 ≤ v ∧ v ≤ 31) := by omega
      simp [hk, hv, this]
    · have hv2 : 0 ≤ v ∧ v ≤ 31 := by omega
      have hlt : 8 * v.toNat < 256 := by omega
      simp only [hk, not_true_eq_false, if_false, hv, hv2, and_self, if_true, toBytesBE_of_lt 1 _ hlt, toBytesBEAux, Nat.mod_eq_of_lt hlt, Tools.xor_eq]
      rfl
  · simp [hk]

theorem repeatBytes_length (b : Bytes) (n : Nat) : (Des.repeatBytes b n).length = b.length * n := by
  induction n with
  | zero => simp [Des.repeatBytes]
  | succ n ih => simp only [Des.repeatBytes, List.length_append, ih]; rw [Nat.mul_succ]; omega

theorem repeatBytes_getElem (b : Bytes) (n i : Nat) (hb : 0 < b.length) (h : i < (Des.repeatBytes b n).length) :
    (Des.repeatBytes b n)[i] = b[i % b.length]'(Nat.mod_lt _ hb) := by
  induction n generalizing i with
  | zero => simp [Des.repeatBytes] at h
  | succ n ih =>
    simp only [Des.repeatBytes] at h ⊢
    by_cases hi : i < b.length
    · rw [List.getElem_append_left hi]
      simp [Nat.mod_eq_of_lt hi]
    · have hi' : b.length ≤ i := by omega
      rw [List.getElem_append_right hi']
      have hlt : i - b.length < (Des.repeatBytes b n).length := by
        simp only [List.length_append] at h; omega
      rw [ih (i - b.length) hlt]
      congr 1
      rw [← Nat.mod_eq_sub_mod hi']

theorem variantMask_length (v n : Nat) : (variantMask v n).length = 8 * n := by
  unfold variantMask
  rw [repeatBytes_length]
  simp

theorem variantMask_getElem (v n i : Nat) (h : i < (variantMask v n).length) :
    (variantMask v n)[i] = if i % 8 = 0 then UInt8.ofNat (8 * v) else 0 := by
  unfold variantMask at h ⊢
  have hl : (UInt8.ofNat (8 * v) :: List.replicate 7 (0 : UInt8)).length = 8 := by simp
  rw [repeatBytes_getElem _ _ _ (by rw [hl]; decide) h]
  have hm : i % (UInt8.ofNat (8 * v) :: List.replicate 7 (0 : UInt8)).length = i % 8 := by rw [hl]
  simp only [hm]
  rw [List.getElem_cons]
  split
  · rfl
  · exact List.getElem_replicate _

/-- applying the same variant twice restores the key -/
theorem applyVariant_involutive (key : Bytes) (v : Int)
    (hk : key.length = 8 ∨ key.length = 16 ∨ key.length = 24) (hv : 0 ≤ v ∧ v ≤ 31) :
    ∃ k', Des.applyKeyVariant key v = .ok k' ∧ Des.applyKeyVariant k' v = .ok key := by
  refine ⟨xorBytes key (variantMask v.toNat (key.length / 8)), ?_, ?_⟩
  · rw [applyVariant_spec]; simp [hk, hv]
  · rw [applyVariant_spec]
    simp only [xorBytes_length, hk, hv, and_self, if_true]
    rw [xorBytes_cancel]

-- the docstring examples of `apply_key_variant` and `adjust_key_parity`
example : (Des.applyKeyVariant (hexb "0123456789ABCDEF") 1).toOption = some (hexb "0923456789ABCDEF") := by decide +kernel
example : Des.adjustKeyParity (hexb "1A2B3C4D5F0A1B2C4D5F6A7B8C9D0F1A") = hexb "1A2A3D4C5E0B1A2C4C5E6B7A8C9D0E1A" := by decide +kernel

end Psec.Props.C20
