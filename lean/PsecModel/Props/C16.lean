import PsecModel.Props.C06
import PsecModel.Props.C07
import PsecModel.Props.C09
import PsecModel.Props.C10
import PsecModel.Props.C11
import PsecModel.Props.C20
/-!
# C16 — generators and codecs accept exactly their documented domain

For every function outside `tr31`: `Dom_f` is the documented input domain as a predicate (written from the
docstrings); `f` returns a value iff `Dom_f` holds and otherwise the outcome is exactly `ValueError` —
never another error class. `str` is `List Nat`, so non-ASCII digits, signs, spaces and embedded newlines are
ordinary inhabitants of the quantified type. (Entropy-taking encoders: for every entropy stream of the right shape.)

Each function is described where its property lives (C05, C07, C09–C11, C19, C20) by one equation
`f args = if Dom_f args then .ok (spec args) else .error .value`; the statements here are `domain_of_ite` of it
(`decipher_pinblock_iso_4`, a chain of three calls, by the closure rules of `OnlyErr` over its `>>=` form).
-/
namespace Psec.Props.C16
open Psec.Pinblock Psec.Card Psec.Props.C05

theorem encode_iso0_domain (pin pan : PyStr) :
    ((∃ v, encodePinblockIso0 pin pan = .ok v) ↔ (pinOk pin = true ∧ panOk13 pan = true)) ∧
    (¬ (pinOk pin = true ∧ panOk13 pan = true) → encodePinblockIso0 pin pan = .error .value) :=
  domain_of_ite (encodeIso0_eq pin pan)

theorem encode_iso2_domain (pin : PyStr) :
    ((∃ v, encodePinblockIso2 pin = .ok v) ↔ pinOk pin = true) ∧ (¬ pinOk pin = true → encodePinblockIso2 pin = .error .value) :=
  domain_of_ite (encodeIso2_eq pin)

theorem encode_iso3_domain (pin pan : PyStr) (draws : Bytes) (fill : PyStr) (hd : choices 10 draws = some (fill, [])) :
    ((∃ v, encodePinblockIso3 pin pan draws = .ok v) ↔ (pinOk pin = true ∧ panOk13 pan = true)) ∧
    (¬ (pinOk pin = true ∧ panOk13 pan = true) → encodePinblockIso3 pin pan draws = .error .value) :=
  domain_of_ite (encodeIso3_eq_of_draws pin pan draws fill hd)

def PanOk19 (pan : PyStr) : Prop := 1 ≤ pan.length ∧ pan.length ≤ 19 ∧ asciiNumeric pan = true

instance (pan : PyStr) : Decidable (PanOk19 pan) := by unfold PanOk19; infer_instance

theorem encode_pin_field_iso4_domain (pin : PyStr) (rnd : Bytes) (hr : rnd.length = 8) :
    ((∃ v, encodePinFieldIso4 pin rnd = .ok v) ↔ pinOk pin = true) ∧
    (¬ pinOk pin = true → encodePinFieldIso4 pin rnd = .error .value) :=
  domain_of_ite (encodePinFieldIso4_eq pin rnd hr)

theorem encode_pan_field_iso4_domain (pan : PyStr) :
    ((∃ v, encodePanFieldIso4 pan = .ok v) ↔ PanOk19 pan) ∧ (¬ PanOk19 pan → encodePanFieldIso4 pan = .error .value) :=
  domain_of_ite (encodePanFieldIso4_eq pan)

theorem encipher_iso4_domain (c : Ciphers) (hc : c.Lawful) (key : Bytes) (pin pan : PyStr) (rnd : Bytes) (hr : rnd.length = 8) :
    ((∃ v, encipherPinblockIso4 c key pin pan rnd = .ok v) ↔ (aesKeyOk key = true ∧ pinOk pin = true ∧ PanOk19 pan)) ∧
    (¬ (aesKeyOk key = true ∧ pinOk pin = true ∧ PanOk19 pan) → encipherPinblockIso4 c key pin pan rnd = .error .value) :=
  domain_of_ite (encipherIso4_eq c hc key pin pan rnd hr)

/-! ## PIN block decoders: a PIN or `ValueError`, nothing else (acceptance is characterised in C06) -/

theorem decoders_only_value_error (b : Bytes) (pan : PyStr) :
    ((∃ p, decodePinblockIso0 b pan = .ok p) ∨ decodePinblockIso0 b pan = .error .value) ∧
    ((∃ p, decodePinblockIso2 b = .ok p) ∨ decodePinblockIso2 b = .error .value) ∧
    ((∃ p, decodePinblockIso3 b pan = .ok p) ∨ decodePinblockIso3 b pan = .error .value) ∧
    ((∃ p, decodePinFieldIso4 b = .ok p) ∨ decodePinFieldIso4 b = .error .value) := by
  have h := Props.C06.decode_outcomes b pan
  exact ⟨h.2.1, h.1, h.2.2.1, h.2.2.2⟩

theorem decipher_iso4_only_value_error (c : Ciphers) (key blk : Bytes) (pan : PyStr) :
    (∃ p, decipherPinblockIso4 c key blk pan = .ok p) ∨ decipherPinblockIso4 c key blk pan = .error .value := by
  have hD : ∀ d, OnlyErr (· = .value) (Aes.decryptAesEcb c key d) := fun d => by
    rw [Props.C19.aes_ecb_dec_eq]; exact .ite (fun _ => .ok _) fun _ => .error rfl
  have hF : OnlyErr (· = .value) (encodePanFieldIso4 pan) := by
    rw [encodePanFieldIso4_eq]; exact .ite (fun _ => .ok _) fun _ => .error rfl
  exact onlyValue_iff.mp (Props.C06.decipherIso4_bind c key blk pan ▸ (hD blk).bind fun _ _ => hF.bind fun _ _ =>
    (hD _).bind fun _ _ => onlyValue_iff.mpr (Props.C06.decode_outcomes _ pan).2.2.2)

theorem cvv_domain (c : Ciphers) (hc : c.Lawful) (cvk : Bytes) (pan expiry svc : PyStr) :
    ((∃ v, generateCvv c cvk pan expiry svc = .ok v) ↔ Props.C09.Dom cvk pan expiry svc) ∧
    (¬ Props.C09.Dom cvk pan expiry svc → generateCvv c cvk pan expiry svc = .error .value) :=
  domain_of_ite (Props.C09.generateCvv_eq c hc cvk pan expiry svc)

theorem pvv_domain (c : Ciphers) (hc : c.Lawful) (pvk : Bytes) (pvki pin pan : PyStr) :
    ((∃ v, generateVisaPvv c pvk pvki pin pan = .ok v) ↔ Props.C10.Dom pvk pvki pin pan) ∧
    (¬ Props.C10.Dom pvk pvki pin pan → generateVisaPvv c pvk pvki pin pan = .error .value) :=
  domain_of_ite (Props.C10.generateVisaPvv_eq c pvk pvki pin pan)

theorem ibm_intermediate_rejects (c : Ciphers) (pvk : Bytes) (table digits pan : PyStr) (off len : Nat) (pad : PyStr)
    (h : ¬ Props.C11.Dom pvk table digits pan off len pad) :
    ibmIntermediate c pvk table digits pan off len pad = .error .value := by
  rw [Props.C11.ibmIntermediate_eq, if_neg h]

theorem ibm_pin_domain (c : Ciphers) (hc : c.Lawful) (pvk : Bytes) (table offset pan : PyStr) (off len : Nat) (pad : PyStr) :
    ((∃ v, generateIbm3624Pin c pvk table offset pan off len pad = .ok v) ↔ Props.C11.Dom pvk table offset pan off len pad) ∧
    (¬ Props.C11.Dom pvk table offset pan off len pad → generateIbm3624Pin c pvk table offset pan off len pad = .error .value) :=
  domain_of_ite (Props.C11.generateIbm3624Pin_eq c pvk table offset pan off len pad)

theorem ibm_offset_domain (c : Ciphers) (hc : c.Lawful) (pvk : Bytes) (table pin pan : PyStr) (off len : Nat) (pad : PyStr) :
    ((∃ v, generateIbm3624Offset c pvk table pin pan off len pad = .ok v) ↔ Props.C11.Dom pvk table pin pan off len pad) ∧
    (¬ Props.C11.Dom pvk table pin pan off len pad → generateIbm3624Offset c pvk table pin pan off len pad = .error .value) :=
  domain_of_ite (Props.C11.generateIbm3624Offset_eq c pvk table pin pan off len pad)

/-- `hfit`: padding method 3 writes the bit length of the data into one block -/
theorem cbc_mac_des_domain (c : Ciphers) (hc : c.Lawful) (key data : Bytes) (padding : Int) (n : Nat)
    (hfit : data.length * 8 < 256 ^ 8) :
    ((∃ v, Mac.generateCbcMac c key data padding (some (n : Int)) (some .des) = .ok v) ↔
      (tdesKeyOk key = true ∧ (padding = 1 ∨ padding = 2 ∨ padding = 3))) ∧
    (¬ (tdesKeyOk key = true ∧ (padding = 1 ∨ padding = 2 ∨ padding = 3)) →
      Mac.generateCbcMac c key data padding (some (n : Int)) (some .des) = .error .value) :=
  domain_of_ite (Props.C07.generateCbcMac_des_eq c hc key data padding n _ (Or.inr rfl) fun _ => hfit)

theorem cbc_mac_aes_domain (c : Ciphers) (hc : c.Lawful) (key data : Bytes) (padding : Int) (n : Nat)
    (hfit : data.length * 8 < 256 ^ 16) :
    ((∃ v, Mac.generateCbcMac c key data padding (some (n : Int)) (some .aes) = .ok v) ↔
      (aesKeyOk key = true ∧ (padding = 1 ∨ padding = 2 ∨ padding = 3))) ∧
    (¬ (aesKeyOk key = true ∧ (padding = 1 ∨ padding = 2 ∨ padding = 3)) →
      Mac.generateCbcMac c key data padding (some (n : Int)) (some .aes) = .error .value) :=
  domain_of_ite (Props.C07.generateCbcMac_aes_eq c hc key data padding n fun _ => hfit)

theorem retail_mac_domain (c : Ciphers) (hc : c.Lawful) (key1 key2 data : Bytes) (padding : Int) (n : Nat)
    (hfit : data.length * 8 < 256 ^ 8) :
    ((∃ v, Mac.generateRetailMac c key1 key2 data padding (some (n : Int)) = .ok v) ↔
      (tdesKeyOk key1 = true ∧ tdesKeyOk key2 = true ∧ (padding = 1 ∨ padding = 2 ∨ padding = 3))) ∧
    (¬ (tdesKeyOk key1 = true ∧ tdesKeyOk key2 = true ∧ (padding = 1 ∨ padding = 2 ∨ padding = 3)) →
      Mac.generateRetailMac c key1 key2 data padding (some (n : Int)) = .error .value) :=
  domain_of_ite (Props.C07.generateRetailMac_eq c hc key1 key2 data padding n fun _ => hfit)

theorem tdes_wrappers_domain (c : Ciphers) (key iv data : Bytes) :
    (((∃ v, Des.encryptTdesEcb c key data = .ok v) ↔ (Props.C19.DataOk 8 data ∧ tdesKeyOk key = true)) ∧
     ((∃ v, Des.decryptTdesEcb c key data = .ok v) ↔ (Props.C19.DataOk 8 data ∧ tdesKeyOk key = true)) ∧
     ((∃ v, Des.encryptTdesCbc c key iv data = .ok v) ↔ (Props.C19.DataOk 8 data ∧ tdesKeyOk key = true ∧ iv.length = 8)) ∧
     ((∃ v, Des.decryptTdesCbc c key iv data = .ok v) ↔ (Props.C19.DataOk 8 data ∧ tdesKeyOk key = true ∧ iv.length = 8))) :=
  ⟨(domain_of_ite (Props.C19.tdes_ecb_enc_eq c key data)).1, (domain_of_ite (Props.C19.tdes_ecb_dec_eq c key data)).1,
   (domain_of_ite (Props.C19.tdes_cbc_enc_eq c key iv data)).1, (domain_of_ite (Props.C19.tdes_cbc_dec_eq c key iv data)).1⟩

theorem aes_wrappers_domain (c : Ciphers) (key iv data : Bytes) :
    (((∃ v, Aes.encryptAesEcb c key data = .ok v) ↔ (Props.C19.DataOk 16 data ∧ aesKeyOk key = true)) ∧
     ((∃ v, Aes.decryptAesEcb c key data = .ok v) ↔ (Props.C19.DataOk 16 data ∧ aesKeyOk key = true)) ∧
     ((∃ v, Aes.encryptAesCbc c key iv data = .ok v) ↔ (Props.C19.DataOk 16 data ∧ aesKeyOk key = true ∧ iv.length = 16)) ∧
     ((∃ v, Aes.decryptAesCbc c key iv data = .ok v) ↔ (Props.C19.DataOk 16 data ∧ aesKeyOk key = true ∧ iv.length = 16))) :=
  ⟨(domain_of_ite (Props.C19.aes_ecb_enc_eq c key data)).1, (domain_of_ite (Props.C19.aes_ecb_dec_eq c key data)).1,
   (domain_of_ite (Props.C19.aes_cbc_enc_eq c key iv data)).1, (domain_of_ite (Props.C19.aes_cbc_dec_eq c key iv data)).1⟩

theorem key_utils_domain (c : Ciphers) (key : Bytes) (n : Nat) (v : Int) :
    ((∃ r, Des.generateKcv c key n = .ok r) ↔ tdesKeyOk key = true) ∧
    (¬ tdesKeyOk key = true → Des.generateKcv c key n = .error .value) ∧
    ((∃ r, Des.applyKeyVariant key v = .ok r) ↔ ((key.length = 8 ∨ key.length = 16 ∨ key.length = 24) ∧ 0 ≤ v ∧ v ≤ 31)) ∧
    (¬ ((key.length = 8 ∨ key.length = 16 ∨ key.length = 24) ∧ 0 ≤ v ∧ v ≤ 31) → Des.applyKeyVariant key v = .error .value) := by
  have h1 := domain_of_ite (Props.C19.kcv_spec c key n)
  have h2 := domain_of_ite (Props.C20.applyVariant_spec key v)
  exact ⟨h1.1, h1.2, h2.1, h2.2⟩

end Psec.Props.C16
