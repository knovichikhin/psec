import PsecModel.Lemmas.Framing
import PsecModel.Lemmas.WrapAll
import PsecModel.Lemmas.RefLawful
/-! C01 — TR-31 wrap then unwrap returns the original key and header. -/
namespace Psec.Props.C01
open Psec.Tr31

/-- The key block unwraps under the same KBPK to the original key and to a header equal to the supplied one in every field, the
reserved field, and optional-block ids, data and order. That wrapping succeeds is the hypothesis `hwrap`, so the limits of 99 blocks
and 9999 characters need no separate treatment; all versions, KBPK sizes, key lengths and masks are covered by quantification. -/
theorem wrap_unwrap (c : Ciphers) (hc : c.Lawful) (kbpk : Bytes) (h : Header) (hw : h.WF) (hnp : NoPadIds h.blocks)
    (key : Bytes) (mask : Option Int) (entropy : Bytes) (s : PyStr)
    (hwrap : wrapFn c kbpk (.obj h) key mask entropy = .ok s) :
    unwrapFn c kbpk s = .ok (h, key) := by
  obtain ⟨bs, ml, n, blocks, hdr, enc, mac, clear, hbs, hml, -, hbd, rfl, hle, rfl, henc, rfl, hcl, -, hun, -⟩ :=
    (wrap_facts c hc { kbpk := kbpk, header := h } key mask entropy s hwrap).facts
  obtain ⟨hpos, hb16, h16, hml2⟩ := version_align _ bs _ hbs hml
  obtain ⟨hload, hmod, hn99, -, -⟩ := blocks_load_dump h.blocks bs hpos hb16 n blocks (toHexU enc ++ toHexU mac)
    (hw.blocksWF hnp) hw.nodup hbd
  have hpure := load_assemble h hw _ n blocks (toHexU enc ++ toHexU mac) hle hn99 hload
  have hhl := assemble_length h hw _ n blocks hle hn99
  have hslen := framed_length h hw _ n blocks enc mac hle hn99
  rw [← List.append_assoc] at hpure
  refine (unwrapFn_ok_iff c kbpk _ h key).mpr ⟨_, hpure, (unwrapTail_ok_iff c kbpk _ _ _ key bs _ hbs hml).mpr ?_⟩
  have hencm : enc.length % bs = 0 := by rw [henc]; exact (pad_arith bs _ hpos).1
  have hyl : (toHexU mac).length = mac.length * 2 := by rw [toHexU_length, Nat.mul_comm]
  rw [List.append_assoc, assemble_lenfield h hw _ n blocks _ hle, List.drop_left' hhl, List.take_left' hhl,
    lastN_append_right _ _ _ hyl, dropLastN_append_right _ _ _ hyl,
    ← List.append_assoc, hslen]
  refine ⟨dec4s_numeric _, decVal_dec4s _ hle, ?_, mac, enc, fromHexWs_toHexU mac, rfl, fromHexWs_toHexU enc,
    hun.trans (extractKey_clear key entropy clear hcl)⟩
  exact framed_mod _ _ _ _ h16 hmod hencm hml2

/-- the `str` overload of the `header` argument of `KeyBlock(...)` -/
theorem wrap_header_string (c : Ciphers) (kbpk : Bytes) (t : PyStr) (key : Bytes) (mask : Option Int) (entropy : Bytes)
    (n : Nat) (hl : (Header.fresh.load t).1 = .ok n) :
    wrapFn c kbpk (.str t) key mask entropy = wrapFn c kbpk (.obj (Header.fresh.load t).2) key mask entropy := by
  unfold wrapFn KB.init
  simp only [hl]

/-- `wrap` does not modify the caller's header, on any path -/
theorem wrap_readonly (c : Ciphers) (kb : KB) (key : Bytes) (mask : Option Int) (entropy : Bytes) :
    (step c kb (.wrap key mask entropy)).2 = kb := rfl

/-- the model as the correspondence check runs it (reference TDES / AES): no hypothesis on the ciphers -/
theorem wrap_unwrap_ref (kbpk : Bytes) (h : Header) (hw : h.WF) (hnp : NoPadIds h.blocks)
    (key : Bytes) (mask : Option Int) (entropy : Bytes) (s : PyStr)
    (hwrap : wrapFn refCiphers kbpk (.obj h) key mask entropy = .ok s) :
    unwrapFn refCiphers kbpk s = .ok (h, key) :=
  wrap_unwrap refCiphers refCiphers_lawful kbpk h hw hnp key mask entropy s hwrap

end Psec.Props.C01
