import PsecModel.Lemmas.PinBlock
import PsecModel.Lemmas.PanField
import PsecModel.Lemmas.Modes
/-!
# C05 — PIN blocks have exactly the ISO 9564-1 layout

Every encoder of the model is described by one equation over all its inputs: the nibble-level construction of
`Spec/ISO9564.lean` where the arguments are admissible (every PIN of 4–12 ASCII digits, every admissible PAN, every
entropy stream of format 3, every 8 random bytes of format 4), `ValueError` elsewhere. The layout theorems here and the
argument-domain theorems of C16 are the two readings of that equation.
-/
namespace Psec.Props.C05
open Psec.Spec Psec.Pinblock

theorem hexNib_F : hexNib 70 = 15 := by decide

theorem encodeIso2_eq (pin : PyStr) :
    encodePinblockIso2 pin = if pinOk pin = true then .ok (Spec.iso2 pin) else .error .value := by
  unfold encodePinblockIso2
  by_cases hp : pinOk pin = true
  · rw [if_pos hp, if_neg (not_not_intro hp), a2bHex_body pin _ hp (asciiHexchar_replicate _ 70 (by decide)) (by simp),
      List.map_replicate, hexNib_F]
    exact congrArg Except.ok (plain_bytes 2 pin _).symm
  · rw [if_neg hp, if_pos hp]

theorem iso2_eq_spec (pin : PyStr) (h : pinOk pin = true) : encodePinblockIso2 pin = .ok (Spec.iso2 pin) := by
  rw [encodeIso2_eq, if_pos h]

theorem panBlock_eq_spec (pan : PyStr) (h : panOk13 pan = true) : panBlock pan = some (nibsToBytes (panNibs pan)) := by
  obtain ⟨h13, hn⟩ := (panOk13_iff pan).mp h
  simp only [panBlock, panNibs]
  rw [a2bHex_numeric _ (asciiNumeric_take _ _ (asciiNumeric_drop _ _ hn)) (by rw [List.length_take, List.length_drop]; omega),
    slice_before_last (digitsOf pan) 12 (by simp; omega)]
  simp only [digitsOf, List.map_take, List.map_drop, List.length_map]
  rfl

theorem encodeIso0_eq (pin pan : PyStr) :
    encodePinblockIso0 pin pan =
      if pinOk pin = true ∧ panOk13 pan = true then .ok (Spec.iso0 pin pan) else .error .value := by
  unfold encodePinblockIso0
  by_cases hp : pinOk pin = true
  · by_cases ha : panOk13 pan = true
    · simp only [hp, ha, not_true_eq_false, and_self, if_true, if_false]
      rw [a2bHex_body pin _ hp (asciiHexchar_replicate _ 70 (by decide)) (by simp), panBlock_eq_spec pan ha,
        List.map_replicate, hexNib_F]
      refine congrArg Except.ok ((Tools.xor_eq _ _).trans ?_)
      rw [Spec.iso0, Spec.iso0Plain, masked_bytes 0 pin pan _ (by decide) hp ha (by simp) (by simp), plain_bytes]
      rfl
    · simp [hp, ha]
  · simp [hp]

theorem iso0_eq_spec (pin pan : PyStr) (hpin : pinOk pin = true) (hpan : panOk13 pan = true) :
    encodePinblockIso0 pin pan = .ok (Spec.iso0 pin pan) := by
  rw [encodeIso0_eq, if_pos ⟨hpin, hpan⟩]

theorem choice6_lt : ∀ (e : Bytes) (i : Nat) (r : Bytes), choice6 e = some (i, r) → i < 6
  | [], _, _, h => by simp [choice6] at h
  | b :: t, i, r, h => by
    rw [choice6] at h
    split at h
    · cases h; assumption
    · exact choice6_lt t i r h

theorem choices_alphabet : ∀ (k : Nat) (e : Bytes) (s : PyStr) (r : Bytes), choices k e = some (s, r) →
    s.length = k ∧ ∀ ch ∈ s, 65 ≤ ch ∧ ch ≤ 70
  | 0, e, s, r, h => by simp [choices] at h; rw [h.1]; simp
  | k + 1, e, s, r, h => by
    simp only [choices] at h
    split at h
    · cases h
    · rename_i i e' h1
      split at h
      · cases h
      · rename_i h2
        cases h
        obtain ⟨ih1, ih2⟩ := choices_alphabet k e' _ _ h2
        have := choice6_lt e i e' h1
        refine ⟨by simp [ih1], fun ch hch => ?_⟩
        rcases List.mem_cons.mp hch with rfl | hch
        · omega
        · exact ih2 ch hch

/-- format 3 on every entropy stream: the stream has to yield exactly the ten draws -/
theorem encodeIso3_eq (pin pan : PyStr) (draws : Bytes) :
    encodePinblockIso3 pin pan draws =
      if pinOk pin = true ∧ panOk13 pan = true then
        match choices 10 draws with
        | some (fill, []) => .ok (Spec.iso3 pin pan (fill.map hexNib))
        | _ => .error (.other "entropy")
      else .error .value := by
  unfold encodePinblockIso3
  by_cases hp : pinOk pin = true
  · by_cases ha : panOk13 pan = true
    · simp only [hp, ha, not_true_eq_false, and_self, if_true, if_false]
      cases hd : choices 10 draws with
      | none => rfl
      | some r =>
        obtain ⟨fill, rest⟩ := r
        cases rest with
        | cons x t => simp
        | nil =>
          obtain ⟨h4, _, _⟩ := (pinOk_iff pin).mp hp
          obtain ⟨hfl, hfa⟩ := choices_alphabet 10 draws fill [] hd
          have hfh : asciiHexchar (fill.take (14 - pin.length)) = true :=
            List.all_eq_true.mpr fun ch hch => isHexC_AF ch (hfa ch (List.mem_of_mem_take hch))
          have hl : (fill.take (14 - pin.length)).length = 14 - pin.length := by rw [List.length_take]; omega
          simp only [ne_eq, not_true_eq_false, if_false]
          rw [a2bHex_body pin _ hp hfh hl, panBlock_eq_spec pan ha]
          refine congrArg Except.ok ((Tools.xor_eq _ _).trans ?_)
          rw [Spec.iso3, Spec.iso3Plain, ← List.map_take,
            masked_bytes 3 pin pan _ (by decide) hp ha (fun x hx => by obtain ⟨ch, _, rfl⟩ := List.mem_map.mp hx; exact hexNib_lt ch)
              (by rw [List.length_map, hl]),
            plain_bytes]
    · simp [hp, ha]
  · simp [hp]

theorem encodeIso3_eq_of_draws (pin pan : PyStr) (draws : Bytes) (fill : PyStr) (hd : choices 10 draws = some (fill, [])) :
    encodePinblockIso3 pin pan draws =
      if pinOk pin = true ∧ panOk13 pan = true then .ok (Spec.iso3 pin pan (fill.map hexNib)) else .error .value := by
  rw [encodeIso3_eq, hd]

/-- **Format 3**: the standard's block with control 3, the length, the PIN digits and the drawn fill, whose nibbles are all in `A–F` -/
theorem iso3_layout (pin pan : PyStr) (draws : Bytes) (fill : PyStr)
    (hpin : pinOk pin = true) (hpan : panOk13 pan = true) (hd : choices 10 draws = some (fill, [])) :
    encodePinblockIso3 pin pan draws = .ok (Spec.iso3 pin pan (fill.map hexNib)) ∧
    (∀ x ∈ (fill.map hexNib).take (14 - pin.length), 10 ≤ x ∧ x ≤ 15) := by
  refine ⟨by rw [encodeIso3_eq_of_draws pin pan draws fill hd, if_pos ⟨hpin, hpan⟩], fun x hx => ?_⟩
  obtain ⟨ch, hch, rfl⟩ := List.mem_map.mp (List.mem_of_mem_take hx)
  exact hexNib_AF ch ((choices_alphabet 10 draws fill [] hd).2 ch hch)

theorem iso4PinField_eq_plain (pin : PyStr) (rnd : Bytes) (hp : pinOk pin = true) :
    Spec.iso4PinField pin rnd = nibsToBytes (plain 4 pin (List.replicate (14 - pin.length) 10 ++ bytesToNibs rnd)) := by
  obtain ⟨h4, h12, _⟩ := (pinOk_iff pin).mp hp
  rw [plain, ← List.append_assoc, nibsToBytes_append _ _ (by simp; omega), nibsToBytes_bytesToNibs]
  rfl

theorem encodePinFieldIso4_eq (pin : PyStr) (rnd : Bytes) (hr : rnd.length = 8) :
    encodePinFieldIso4 pin rnd = if pinOk pin = true then .ok (Spec.iso4PinField pin rnd) else .error .value := by
  unfold encodePinFieldIso4
  by_cases hp : pinOk pin = true
  · obtain ⟨h4, h12, hn⟩ := (pinOk_iff pin).mp hp
    have h16 : pin.length < 16 := by omega
    simp only [hp, hr, not_true_eq_false, if_false, if_true, ne_eq, Nat.mod_eq_of_lt h16]
    have hs : asciiHexchar ([52, hexDigitL pin.length] ++ pin ++ List.replicate (14 - pin.length) 65 ++ toHexU rnd) = true := by
      rw [asciiHexchar_append, asciiHexchar_append, asciiHexchar_append, toHexU_hexchar, asciiNumeric_hexchar hn,
        asciiHexchar_replicate _ 65 (by decide)]
      simp [asciiHexchar, isHexC_hexDigitL _ h16]; decide
    rw [a2bHex_of_hex _ hs (by simp [toHexU_length, hr]; omega)]
    simp only [List.map_append, List.map_cons, List.map_nil, toHexU_nibs, map_hexNib_eq_digitsOf pin hn, List.map_replicate,
      show hexNib 65 = 10 by decide, show hexNib 52 = 4 by decide,
      show hexNib (hexDigitL pin.length) = pin.length by simp [hexNib, hexVal_hexDigitL _ h16]]
    rw [iso4PinField_eq_plain pin rnd hp, plain, List.append_assoc]
  · simp [hp]

/-- **Format 4 PIN field**: control 4, length, PIN digits, fill `A` up to nibble 16, then exactly the 8 random bytes -/
theorem iso4_pin_field_layout (pin : PyStr) (rnd : Bytes) (hpin : pinOk pin = true) (hr : rnd.length = 8) :
    encodePinFieldIso4 pin rnd = .ok (Spec.iso4PinField pin rnd) := by
  rw [encodePinFieldIso4_eq pin rnd hr, if_pos hpin]

/-- **Format 4 PAN field**: length nibble `max(0, n−12)`, PAN right-justified in at least 12 digits, zero padding -/
theorem iso4_pan_field_eq_spec (pan : PyStr) (h1 : 1 ≤ pan.length) (h19 : pan.length ≤ 19) (hn : asciiNumeric pan = true) :
    encodePanFieldIso4 pan = .ok (Spec.iso4PanField pan) := by
  rw [encodePanFieldIso4_eq, if_pos ⟨h1, h19, hn⟩]

theorem iso4PinField_length (pin : PyStr) (rnd : Bytes) (hp : pinOk pin = true) (hr : rnd.length = 8) :
    (Spec.iso4PinField pin rnd).length = 16 := by
  obtain ⟨h4, h12, _⟩ := (pinOk_iff pin).mp hp
  rw [Spec.iso4PinField, List.length_append, nibsToBytes_length, plain_length, hr]
  simp; omega

theorem encipherIso4_eq (c : Ciphers) (hc : c.Lawful) (key : Bytes) (pin pan : PyStr) (rnd : Bytes) (hr : rnd.length = 8) :
    encipherPinblockIso4 c key pin pan rnd =
      if aesKeyOk key = true ∧ pinOk pin = true ∧ 1 ≤ pan.length ∧ pan.length ≤ 19 ∧ asciiNumeric pan = true then
        .ok (Spec.iso4Encipher (c.aesE key) pin pan rnd) else .error .value := by
  unfold encipherPinblockIso4
  rw [encodePinFieldIso4_eq pin rnd hr, encodePanFieldIso4_eq pan]
  by_cases hp : pinOk pin = true
  · by_cases ha : 1 ≤ pan.length ∧ pan.length ≤ 19 ∧ asciiNumeric pan = true
    · have hf := iso4PinField_length pin rnd hp hr
      simp only [hp, ha, and_self, and_true, if_true]
      by_cases hk : aesKeyOk key = true
      · simp only [hk, if_true, Props.C19.aes_ecb_enc_block c key _ hk hf, Tools.xor_eq]
        rw [Props.C19.aes_ecb_enc_block c key _ hk (by rw [xorBytes_length, hc.aes_enc_len key _ hk hf])]
        rfl
      · rw [Props.C19.aes_ecb_enc_eq, if_neg fun h => hk h.2, if_neg hk]
    · simp [hp, ha]
  · simp [hp]

/-- **Format 4 enciphered block** `= E(E(PIN field) ⊕ PAN field)` -/
theorem iso4_encipher_eq (c : Ciphers) (hc : c.Lawful) (key : Bytes) (pin pan : PyStr) (rnd : Bytes)
    (hk : aesKeyOk key = true) (hpin : pinOk pin = true) (hr : rnd.length = 8)
    (h1 : 1 ≤ pan.length) (h19 : pan.length ≤ 19) (hn : asciiNumeric pan = true) :
    encipherPinblockIso4 c key pin pan rnd = .ok (Spec.iso4Encipher (c.aesE key) pin pan rnd) := by
  rw [encipherIso4_eq c hc key pin pan rnd hr, if_pos ⟨hk, hpin, h1, h19, hn⟩]

/-! ## non-vacuity -/
example : (encodePinblockIso0 (str "1234") (str "5555555551234567")).toOption = some (hexb "041261AAAAEDCBA9") := by decide +kernel
example : (encodePinFieldIso4 (str "1234") (hexb "548ED7FD65495950")).toOption = some (hexb "441234AAAAAAAAAA548ED7FD65495950") := by decide +kernel

end Psec.Props.C05
