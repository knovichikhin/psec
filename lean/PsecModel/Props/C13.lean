import PsecModel.Lemmas.Framing
import PsecModel.Lemmas.WrapAll
/-! C13 — TR-31 key block length does not reveal the key length within the mask. -/
namespace Psec.Props.C13
open Psec.Tr31

/-- the effective mask of `KeyBlock.wrap`: `masked_key_len`, or by default `_algo_id_max_key_len` (24 for algorithm `T`/`D`, 32 for
`A`, else the key's own length); never below the key's length -/
theorem effective_mask (h : Header) (k : Nat) :
    (∀ m : Int, maskedLen h k (some m) = (max m (k : Int)).toNat) ∧
    (h.algorithm = [84] ∨ h.algorithm = [68] → maskedLen h k none = max 24 k) ∧
    (h.algorithm = [65] → maskedLen h k none = max 32 k) ∧
    (h.algorithm ≠ [84] → h.algorithm ≠ [68] → h.algorithm ≠ [65] → maskedLen h k none = k) := by
  refine ⟨fun m => rfl, ?_, ?_, ?_⟩
  · intro ha
    rcases ha with ha | ha <;> simp [maskedLen, algoMaxKeyLen, ha]
  · intro ha; simp [maskedLen, algoMaxKeyLen, ha]
  · intro h1 h2 h3; simp [maskedLen, algoMaxKeyLen, h1, h2, h3]

/-- `maskedLen h 0 mask` is the mask before the key's own length is taken into account (`maskedLen_eq_max`) -/
theorem maskedLen_const (h : Header) (mask : Option Int) (k : Nat) (hk : k ≤ maskedLen h 0 mask) :
    maskedLen h k mask = maskedLen h 0 mask := by
  rw [maskedLen_eq_max]; exact Nat.max_eq_left hk

/-- the length of a key block as a function of the effective mask only -/
theorem wrap_length (c : Ciphers) (hc : c.Lawful) (kb : KB) (hw : kb.header.WF) (key : Bytes) (mask : Option Int)
    (entropy : Bytes) (s : PyStr) (h : kb.wrap c key mask entropy = .ok s) :
    ∃ bs ml n blocks, algoBs kb.header.versionId = some bs ∧ macLen kb.header.versionId = some ml ∧
      blocksDump kb.header.blocks bs = .ok (n, blocks) ∧
      s.length = 16 + blocks.length +
        2 * (2 + maskedLen kb.header key.length mask + (bs - (2 + maskedLen kb.header key.length mask) % bs)) + 2 * ml := by
  obtain ⟨bs, ml, n, blocks, hdr, enc, mac, clear, hbs, hml, -, hbd, rfl, hle, rfl, henc, rfl, -, -, -, -⟩ :=
    (wrap_facts c hc kb key mask entropy s h).facts
  obtain ⟨hpos, _⟩ := version_align _ bs _ hbs hml
  obtain ⟨_, _, _, _, hn, _⟩ := blocksDump_shape kb.header.blocks bs n blocks hpos hbd
  refine ⟨bs, _, n, blocks, hbs, hml, hbd, ?_⟩
  rw [framed_length _ hw _ n blocks enc mac hle hn, henc]

/-- length masking: for a fixed object (version, header, KBPK) and mask argument, any two keys no longer than the effective mask
give key blocks of the same length -/
theorem length_masked (c : Ciphers) (hc : c.Lawful) (kb : KB) (hw : kb.header.WF) (mask : Option Int)
    (k1 k2 e1 e2 : Bytes) (s1 s2 : PyStr)
    (h1 : kb.wrap c k1 mask e1 = .ok s1) (h2 : kb.wrap c k2 mask e2 = .ok s2)
    (hk1 : k1.length ≤ maskedLen kb.header 0 mask) (hk2 : k2.length ≤ maskedLen kb.header 0 mask) :
    s1.length = s2.length := by
  obtain ⟨bs, ml, n, blocks, hbs, hml, hbd, hl1⟩ := wrap_length c hc kb hw k1 mask e1 s1 h1
  obtain ⟨bs', ml', n', blocks', hbs', hml', hbd', hl2⟩ := wrap_length c hc kb hw k2 mask e2 s2 h2
  rw [hbs] at hbs'; injection hbs' with hbs'; subst hbs'
  rw [hml] at hml'; injection hml' with hml'; subst hml'
  rw [hbd] at hbd'; injection hbd' with hbd'; injection hbd' with e1' e2'; subst e2'
  rw [hl1, hl2, maskedLen_const _ _ _ hk1, maskedLen_const _ _ _ hk2]

/-- the encrypted section: two length bytes and the effective mask, padded by 1 to `bs` bytes up to a block multiple -/
theorem encrypted_bounds (c : Ciphers) (hc : c.Lawful) (kb : KB) (key : Bytes) (mask : Option Int)
    (entropy : Bytes) (s : PyStr) (h : kb.wrap c key mask entropy = .ok s) :
    ∃ bs hdr enc mac, algoBs kb.header.versionId = some bs ∧ s = hdr ++ toHexU enc ++ toHexU mac ∧
      2 + maskedLen kb.header key.length mask < enc.length ∧
      enc.length ≤ 2 + maskedLen kb.header key.length mask + bs ∧ enc.length % bs = 0 := by
  obtain ⟨bs, ml, n, blocks, hdr, enc, mac, clear, hbs, hml, -, -, -, -, hs, henc, -, -, -, -, -⟩ :=
    (wrap_facts c hc kb key mask entropy s h).facts
  obtain ⟨hpos, _⟩ := version_align _ bs ml hbs hml
  have hlt := Nat.mod_lt (2 + maskedLen kb.header key.length mask) hpos
  refine ⟨bs, hdr, enc, mac, hbs, hs, by omega, by omega, ?_⟩
  rw [henc]
  exact (pad_arith bs _ hpos).1

/-- keys longer than the mask are wrapped whole -/
theorem long_keys_whole (h : Header) (mask : Option Int) (k : Nat) (hk : maskedLen h 0 mask ≤ k) : maskedLen h k mask = k := by
  rw [maskedLen_eq_max]; exact Nat.max_eq_right hk

end Psec.Props.C13
