import PsecModel.Lemmas.Card
import PsecModel.Lemmas.Modes
import PsecModel.Lemmas.Result
/-!
# C09 — card verification value is the standard CVV and always three digits

For every 16-byte CVK, PAN of 0..19 ASCII digits, 4-digit expiry and 3-digit service code; the only
cipher fact used is that a block operation returns a block of the same size (`c.Lawful`).
-/
namespace Psec.Props.C09
open Psec.Spec Psec.Card

/-- documented input domain of `generate_cvv` -/
def Dom (cvk : Bytes) (pan expiry svc : PyStr) : Prop :=
  cvk.length = 16 ∧ pan.length ≤ 19 ∧ asciiNumeric pan = true ∧ expiry.length = 4 ∧ asciiNumeric expiry = true ∧
  svc.length = 3 ∧ asciiNumeric svc = true

instance (cvk : Bytes) (pan expiry svc : PyStr) : Decidable (Dom cvk pan expiry svc) := by unfold Dom; infer_instance

theorem generateCvv_eq (c : Ciphers) (hc : c.Lawful) (cvk : Bytes) (pan expiry svc : PyStr) :
    generateCvv c cvk pan expiry svc =
      if Dom cvk pan expiry svc then .ok (Spec.cvv (c.tdesE (cvk.take 8)) (c.tdesE cvk) pan expiry svc) else .error .value := by
  unfold generateCvv
  by_cases h : Dom cvk pan expiry svc
  · rw [if_pos h]
    obtain ⟨hk, hp, hpn, he, hen, hs, hsn⟩ := h
    have hkA : tdesKeyOk (cvk.take 8) = true := by simp [tdesKeyOk, hk]
    have hkF : tdesKeyOk cvk = true := by simp [tdesKeyOk, hk]
    simp only [hk, Nat.not_lt.mpr hp, hpn, he, hen, hs, hsn, ne_eq, not_true_eq_false, or_self, if_false, Spec.cvv]
    have hnum : asciiNumeric (ljust 32 48 (pan ++ expiry ++ svc)) = true := by
      rw [asciiNumeric_ljust, asciiNumeric_append, asciiNumeric_append, hpn, hen, hsn]; rfl
    have hbl : (ljust 32 48 (pan ++ expiry ++ svc)).length = 32 := by rw [ljust_length]; simp; omega
    -- from here on only the 32-digit block counts: its halves are the two cipher inputs
    rw [digitsOf_length, ← digitsOf_ljust]
    generalize ljust 32 48 (pan ++ expiry ++ svc) = blk at hnum hbl ⊢
    have hdt : digitsOf (blk.take 16) = (digitsOf blk).take 16 := List.map_take
    have hdd : digitsOf (blk.drop 16) = (digitsOf blk).drop 16 := List.map_drop
    rw [a2bHex_numeric _ (asciiNumeric_take _ 16 hnum) (by simp [hbl]), a2bHex_numeric _ (asciiNumeric_drop _ 16 hnum) (by simp [hbl]),
      hdt, hdd]
    have hb1 : (nibsToBytes ((digitsOf blk).take 16)).length = 8 := by simp [nibsToBytes_length, hbl]
    simp only [Props.C19.tdes_ecb_enc_block c _ _ hkA hb1, Tools.xor_eq]
    rw [Props.C19.tdes_ecb_enc_block c _ _ hkF (by rw [xorBytes_length, hc.tdes_enc_len _ _ hkA hb1])]
    simp only [decimalize_eq_spec]
  · rw [if_neg h]
    refine guard_value fun g1 => guard_value fun g2 => guard_value fun g3 => guard_value fun g4 => absurd ?_ h
    simp only [not_or, Decidable.not_not, Nat.not_lt] at g1 g2 g3 g4
    exact ⟨g1, g2.1, g2.2, g3.1, g3.2, g4.1, g4.2⟩

/-- **CVV = the standard algorithm**: `E_A(b₁) ⊕ b₂`, EDE under the whole key, decimal nibbles first then `A–F` minus ten -/
theorem cvv_eq_spec (c : Ciphers) (hc : c.Lawful) (cvk : Bytes) (pan expiry svc : PyStr) (h : Dom cvk pan expiry svc) :
    generateCvv c cvk pan expiry svc = .ok (Spec.cvv (c.tdesE (cvk.take 8)) (c.tdesE cvk) pan expiry svc) := by
  rw [generateCvv_eq c hc, if_pos h]

theorem cvv_three_digits (c : Ciphers) (hc : c.Lawful) (cvk : Bytes) (pan expiry svc : PyStr) (h : Dom cvk pan expiry svc) :
    ∃ v, generateCvv c cvk pan expiry svc = .ok v ∧ v.length = 3 ∧ asciiNumeric v = true := by
  refine ⟨_, cvv_eq_spec c hc cvk pan expiry svc h, decimalise_digits _ 3 ?_⟩
  rw [hc.tdes_enc_len _ _ (by simp [tdesKeyOk, h.1])]
  · decide
  · rw [xorBytes_length, hc.tdes_enc_len _ _ (by simp [tdesKeyOk, h.1])]
    simp [nibsToBytes_length]; omega

/-! ## non-vacuity: F1's input is in the domain -/
example : Dom (hexb "3d4b4d10f83cdce8ff775fdfb6569a53") (str "8820620256635445") (str "2512") (str "101") := by
  unfold Dom; decide +kernel

end Psec.Props.C09
