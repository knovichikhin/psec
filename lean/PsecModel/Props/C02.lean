import PsecModel.Props.C15
import PsecModel.Props.C12
/-!
C02 — TR-31 unwrap rejects every unauthentic or tampered key block. Partial: reduction to MAC unforgeability.

Proved: `unwrap` releases a key only after a full-length MAC match over a message that contains the whole header section and all
of the key data, and the parse is injective up to hex letter case; so an accepted string other than a genuine block carries a
valid tag on a message no genuine block carries. NOT proved, nor provable in an executable model: that such a tag cannot be found
(EUF-CMA of TDES CBC-MAC/32, TDES-CMAC, AES-CMAC) and that different KBPKs derive different keys. The property at full strength
is the proposition `C02_full`, not asserted; it follows from the assumption `¬ MacForgery`.
-/
namespace Psec.Props.C02
open Psec.Tr31 Psec.Props.C17 Psec.Props.C15

/-- the version's authenticator recomputed from the header section, the binary sections and the KBPK; `none` when the derivation or
the MAC computation fails -/
def tagOf (c : Ciphers) (ver : PyStr) (kbpk : Bytes) (H : PyStr) (data mac : Bytes) : Option Bytes :=
  if ver == [66] then
    match bDerive c kbpk with
    | .ok (kbek, kbak) =>
      (match Des.decryptTdesCbc c kbek mac data with
       | .ok clear => (bGenerateMac c kbak H clear).toOption
       | .error _ => none)
    | .error _ => none
  else if ver == [68] then
    match dDerive c kbpk with
    | .ok (kbek, kbak) =>
      (match Aes.decryptAesCbc c kbek mac data with
       | .ok clear => (dGenerateMac c kbak H clear).toOption
       | .error _ => none)
    | .error _ => none
  else (cGenerateMac c (cDerive kbpk).2 H data).toOption

theorem dispatch_ok_tag (c : Ciphers) (ver : PyStr) (kbpk : Bytes) (H : PyStr) (data mac key : Bytes)
    (h : unwrapDispatch c ver kbpk H data mac = .ok key) : tagOf c ver kbpk H data mac = some mac := by
  obtain ⟨-, -, -, ks, clear, hd, hu, -⟩ := Method.unwrap_ok ((unwrapDispatch_eq ..).symm.trans h)
  unfold tagOf
  rcases methodOf_cases c ver with ⟨rfl, e⟩ | ⟨rfl, e⟩ | ⟨h1, h2, e⟩ <;> rw [e] at hd hu
  · obtain ⟨h1, h2⟩ := unpackMtE_ok hu
    rw [if_pos (by decide), show bDerive c kbpk = .ok ks from hd]
    simp only [h1, h2]; rfl
  · obtain ⟨h1, h2⟩ := unpackMtE_ok hu
    rw [if_neg (by decide), if_pos (by decide), show dDerive c kbpk = .ok ks from hd]
    simp only [h1, h2]; rfl
  · cases hd
    obtain ⟨m, hm, h⟩ := bind_eq_ok.mp hu
    rw [if_neg (by simpa using h1), if_neg (by simpa using h2), hm, Decidable.not_not.mp (guard_eq_ok.mp h).1]; rfl

/-- soundness of `unwrap`: `H` is exactly what the header parser consumed, `X` and `Y` are the two hex sections; a key is released
only with a truthful length field and a full tag match over `H` and all of the key data -/
theorem unwrap_sound (c : Ciphers) (kbpk : Bytes) (s : PyStr) (h : Header) (key : Bytes)
    (hu : unwrapFn c kbpk s = .ok (h, key)) :
    ∃ H X Y data mac ml, s = H ++ X ++ Y ∧ loadPure s = .ok (H.length, h) ∧ macLen h.versionId = some ml ∧
      fromHexWs X = some data ∧ fromHexWs Y = some mac ∧ mac.length = ml ∧
      decVal ((s.take 5).drop 1) = s.length ∧
      tagOf c h.versionId kbpk H data mac = some mac := by
  obtain ⟨m, hp, ht⟩ := (unwrapFn_ok_iff c kbpk s h key).mp hu
  obtain ⟨_, hle, _, hver, _⟩ := (loadPure_spec s).2 m h hp
  obtain ⟨bs, ml, hbs, hml⟩ := versionOk_bs h.versionId hver
  obtain ⟨_, hlen, _, mac, data, hm, hml', hkd, hd⟩ := (unwrapTail_ok_iff c kbpk _ s m key bs ml hbs hml).mp ht
  refine ⟨s.take m, dropLastN (s.drop m) (ml * 2), lastN (s.drop m) (ml * 2), data, mac, ml, ?_, ?_, hml, hkd, hm, hml',
    hlen, dispatch_ok_tag c _ kbpk _ data mac key hd⟩
  · unfold dropLastN lastN
    rw [List.append_assoc, List.take_append_drop, List.take_append_drop]
  · rw [List.length_take, Nat.min_eq_left hle]; exact hp

/-- `X.length = 2 * d.length` says that `bytes.fromhex` skipped no whitespace -/
theorem fromHexWs_tight : ∀ (X : PyStr) (d : Bytes), fromHexWs X = some d → X.length = 2 * d.length → upper X = toHexU d
  | [], d, h, _ => by cases h; rfl
  | [ch], d, h, hl => by
    simp only [fromHexWs] at h
    split at h <;> cases h
    cases hl
  | ch :: d1 :: r, d, h, hl => by
    rcases fromHexWs_cons2 ch d1 r d h with ⟨_, h⟩ | ⟨hi, lo, e', hv1, hv2, h', rfl⟩
    · -- a skipped character makes the string longer than two characters per byte
      have := fromHexWs_len (d1 :: r) d h
      simp only [List.length_cons] at hl this; omega
    · have ih := fromHexWs_tight r e' h' (by simp only [List.length_cons] at hl ⊢; omega)
      have hhi := hexVal_lt ch hi hv1
      have hlo := hexVal_lt d1 lo hv2
      have hb : (mkByte hi lo).toNat = hi * 16 + lo := by unfold mkByte; simp; omega
      simp only [upper, List.map_cons, toHexU, hb] at ih ⊢
      rw [show (hi * 16 + lo) / 16 = hi by omega, show (hi * 16 + lo) % 16 = lo by omega, ih,
        upperC_hex ch hi hv1, upperC_hex d1 lo hv2]

/-- parse injectivity: accepted strings with the same header section, key data and MAC, and no whitespace in the binary sections,
are equal up to the letter case of hex digits -/
theorem parse_injective (H X1 Y1 X2 Y2 : PyStr) (data mac : Bytes)
    (h1 : fromHexWs X1 = some data) (h2 : fromHexWs X2 = some data) (m1 : fromHexWs Y1 = some mac) (m2 : fromHexWs Y2 = some mac)
    (l1 : X1.length = 2 * data.length) (l2 : X2.length = 2 * data.length) (k1 : Y1.length = 2 * mac.length) (k2 : Y2.length = 2 * mac.length) :
    H ++ upper X1 ++ upper Y1 = H ++ upper X2 ++ upper Y2 := by
  rw [fromHexWs_tight X1 data h1 l1, fromHexWs_tight X2 data h2 l2, fromHexWs_tight Y1 mac m1 k1, fromHexWs_tight Y2 mac m2 k2]

theorem kbpk_size_bound (c : Ciphers) (ver : PyStr) (kbpk : Bytes) (H : PyStr) (data mac : Bytes) :
    (ver = [66] → ¬ (kbpk.length = 16 ∨ kbpk.length = 24) → unwrapDispatch c ver kbpk H data mac = .error .keyblock) ∧
    (ver = [68] → ¬ (kbpk.length = 16 ∨ kbpk.length = 24 ∨ kbpk.length = 32) → unwrapDispatch c ver kbpk H data mac = .error .keyblock) ∧
    (ver ≠ [66] → ver ≠ [68] → ¬ (kbpk.length = 8 ∨ kbpk.length = 16 ∨ kbpk.length = 24) →
      unwrapDispatch c ver kbpk H data mac = .error .keyblock) := by
  simp only [unwrapDispatch_eq]
  refine ⟨fun hv hk => ?_, fun hv hk => ?_, fun h1 h2 hk => ?_⟩
  · subst hv; exact Method.unwrap_badKbpk (by simpa [methodOf, methodB, methodMtE] using hk) ..
  · subst hv; exact Method.unwrap_badKbpk (by simpa [methodOf, methodD, methodMtE] using hk) ..
  · rw [methodOf_C c h1 h2]; exact Method.unwrap_badKbpk (by simpa [methodC] using hk) ..

/-- produced by `wrap` under `kbpk` for some well-formed header, key, mask and entropy -/
def Genuine (c : Ciphers) (kbpk : Bytes) (s : PyStr) : Prop :=
  ∃ h key mask e, h.WF ∧ wrapFn c kbpk (.obj h) key mask e = .ok s

/-- equal up to the letter case of the binary sections after a common header section `H` -/
def SameUpToHexCase (s g : PyStr) : Prop := ∃ H B1 B2, s = H ++ B1 ∧ g = H ++ B2 ∧ upper B1 = upper B2

/-- accepted, but not a genuine block up to hex case -/
def Forgery (c : Ciphers) (kbpk : Bytes) (s : PyStr) : Prop :=
  (∃ r, unwrapFn c kbpk s = .ok r) ∧ ¬ ∃ g, Genuine c kbpk g ∧ SameUpToHexCase s g

/-- C02 at full strength — a proposition, NOT asserted: every string that is not a genuine block up to hex case is rejected, with
`HeaderError` or `KeyBlockError` -/
def C02_full (c : Ciphers) (kbpk : Bytes) : Prop :=
  ∀ s, (¬ ∃ g, Genuine c kbpk g ∧ SameUpToHexCase s g) → ∃ e, unwrapFn c kbpk s = .error e ∧ (e = .header ∨ e = .keyblock)

/-- conditional on `hnf`: no forgery exists for this KBPK (the EUF-CMA assumption on the version's MAC, a fact about the ciphers and
not about psec's code; assumed, not proved) -/
theorem C02_full_of_no_forgery (c : Ciphers) (hc : c.Lawful) (kbpk : Bytes) (hnf : ∀ s, ¬ Forgery c kbpk s) : C02_full c kbpk := by
  intro s hs
  cases hr : unwrapFn c kbpk s with
  | ok r => exact absurd ⟨⟨r, hr⟩, hs⟩ (hnf s)
  | error e => exact ⟨e, rfl, unwrapFn_errors c hc kbpk s e hr⟩

/-!
`Forgery` is "accepted but not genuine", which makes `C02_full_of_no_forgery` little more than `unwrapFn_errors`. The content is
below: an accepted string that is not a genuine block up to hex case exhibits a triple (header section, key data, MAC) whose
authenticator verifies under the KBPK and which no genuine block carries — a MAC forgery in the standard sense (for A/C the MAC
message is `header ‖ data` itself; for B/D it is `header ‖ Dec(kbek, iv = mac, data)`, a bijective image of the triple).
-/

/-- `g` carries the triple `(H, data, mac)` in canonical form, with a truthful length field -/
def TripleOf (g H : PyStr) (data mac : Bytes) : Prop :=
  g = H ++ toHexU data ++ toHexU mac ∧ 5 ≤ H.length ∧ decVal ((g.take 5).drop 1) = g.length

theorem upper_toHexU (b : Bytes) : upper (toHexU b) = toHexU b :=
  fromHexWs_tight _ b (fromHexWs_toHexU b) (toHexU_length b)

theorem genuine_triple (c : Ciphers) (hc : c.Lawful) (kbpk : Bytes) (g : PyStr) (hg : Genuine c kbpk g) :
    ∃ H data mac, TripleOf g H data mac := by
  obtain ⟨h, key, mask, e, hw, hwrap⟩ := hg
  have hwrap' : KB.wrap c { kbpk := kbpk, header := h } key mask e = .ok g := hwrap
  obtain ⟨bs, ml, n, body, pad, enc, mac, _, _, _, hle, hlf, _, hs, _, _, hn, _⟩ :=
    Props.C12.wrap_framing c hc _ hw key mask e g hwrap'
  refine ⟨_, enc, mac, hs, ?_, ?_⟩
  · rw [assemble_length h hw _ _ _ hle hn]; omega
  · rw [hlf, decVal_dec4s _ hle]

/-- whitespace smuggled into the binary sections is impossible: the length field inside the (authenticated) header section pins
the total length -/
theorem same_triple_same_block (s g H X Y : PyStr) (data mac : Bytes)
    (hs : s = H ++ X ++ Y) (hx : fromHexWs X = some data) (hy : fromHexWs Y = some mac)
    (hl : decVal ((s.take 5).drop 1) = s.length) (ht : TripleOf g H data mac) : SameUpToHexCase s g := by
  obtain ⟨hg, h5, hgl⟩ := ht
  have t1 : s.take 5 = H.take 5 := by
    rw [hs, List.append_assoc, List.take_append_of_le_length h5]
  have t2 : g.take 5 = H.take 5 := by
    rw [hg, List.append_assoc, List.take_append_of_le_length h5]
  have hlen : s.length = g.length := by rw [← hl, ← hgl, t1, t2]
  have l1 := fromHexWs_len X data hx
  have l2 := fromHexWs_len Y mac hy
  have hsl : s.length = H.length + X.length + Y.length := by rw [hs]; simp; omega
  have hgl' : g.length = H.length + 2 * data.length + 2 * mac.length := by rw [hg]; simp [toHexU_length]; omega
  have e1 : X.length = 2 * data.length := by omega
  have e2 : Y.length = 2 * mac.length := by omega
  refine ⟨H, X ++ Y, toHexU data ++ toHexU mac, by rw [hs, List.append_assoc], by rw [hg, List.append_assoc], ?_⟩
  have u1 : X.map upperC = toHexU data := fromHexWs_tight X data hx e1
  have u2 : Y.map upperC = toHexU mac := fromHexWs_tight Y mac hy e2
  have v1 : (toHexU data).map upperC = toHexU data := upper_toHexU data
  have v2 : (toHexU mac).map upperC = toHexU mac := upper_toHexU mac
  show (X ++ Y).map upperC = (toHexU data ++ toHexU mac).map upperC
  rw [List.map_append, List.map_append, u1, u2, v1, v2]

/-- a MAC forgery under `kbpk`: a triple whose authenticator verifies and that no genuine block carries -/
def MacForgery (c : Ciphers) (kbpk : Bytes) : Prop :=
  ∃ ver H data mac, tagOf c ver kbpk H data mac = some mac ∧ ∀ g, Genuine c kbpk g → ¬ TripleOf g H data mac

/-- the reduction: every accepted string is a genuine block up to hex case, or exhibits a MAC forgery -/
theorem accepted_genuine_or_forgery (c : Ciphers) (kbpk : Bytes) (s : PyStr) (r : Header × Bytes)
    (hu : unwrapFn c kbpk s = .ok r) :
    (∃ g, Genuine c kbpk g ∧ SameUpToHexCase s g) ∨ MacForgery c kbpk := by
  obtain ⟨h, key⟩ := r
  obtain ⟨H, X, Y, data, mac, ml, hs, _, _, hx, hy, _, hl, htag⟩ := unwrap_sound c kbpk s h key hu
  by_cases hex : ∃ g, Genuine c kbpk g ∧ TripleOf g H data mac
  · obtain ⟨g, hg, ht⟩ := hex
    exact Or.inl ⟨g, hg, same_triple_same_block s g H X Y data mac hs hx hy hl ht⟩
  · exact Or.inr ⟨h.versionId, H, data, mac, htag, fun g hg ht => hex ⟨g, hg, ht⟩⟩

/-- C02 in full, conditional on MAC unforgeability (`hnf`: assumed, not proved) -/
theorem C02_full_of_no_mac_forgery (c : Ciphers) (hc : c.Lawful) (kbpk : Bytes) (hnf : ¬ MacForgery c kbpk) : C02_full c kbpk := by
  intro s hs
  cases hr : unwrapFn c kbpk s with
  | ok r =>
    cases accepted_genuine_or_forgery c kbpk s r hr with
    | inl h => exact absurd h hs
    | inr h => exact absurd h hnf
  | error e => exact ⟨e, rfl, unwrapFn_errors c hc kbpk s e hr⟩

end Psec.Props.C02
