import PsecModel.Props.C04
import PsecModel.Props.C06
/-!
# Composition: PIN translation between formats

A PIN translation (decode an incoming block, re-encode for the next hop) relies on C06 and C04 at once: whatever any decoder
returns is inside the domain of every encoder, and the re-encoded block decodes to the same PIN. Obligations of C06.
-/
namespace Psec.Props.Translate
open Psec.Pinblock Psec.Props.C04 Psec.Props.C06

theorem decoded_pin_is_pinOk (b : Bytes) (pan pin : PyStr)
    (h : decodePinblockIso0 b pan = .ok pin ∨ decodePinblockIso2 b = .ok pin ∨ decodePinblockIso3 b pan = .ok pin ∨
         decodePinFieldIso4 b = .ok pin) : pinOk pin = true := by
  rw [decodeIso2_eq, decodeIso0_eq, decodeIso3_eq, decodeIso4_eq, guard_eq_ok', guard_eq_ok'] at h
  rcases h with h | h | h | h
  · exact decodeClear_pinOk (by decide) h.2
  · exact decodeClear_pinOk (by decide) h
  · exact decodeClear_pinOk (by decide) h.2
  · exact decodeClear_pinOk (by decide) h

/-- **translation into format 0 / format 2**, under any admissible PAN -/
theorem translate_to_iso0_iso2 (b : Bytes) (pan pin : PyStr)
    (h : decodePinblockIso0 b pan = .ok pin ∨ decodePinblockIso2 b = .ok pin ∨ decodePinblockIso3 b pan = .ok pin ∨
         decodePinFieldIso4 b = .ok pin) (pan' : PyStr) (hp' : panOk13 pan' = true) :
    (∃ b0, encodePinblockIso0 pin pan' = .ok b0 ∧ decodePinblockIso0 b0 pan' = .ok pin) ∧
    (∃ b2, encodePinblockIso2 pin = .ok b2 ∧ decodePinblockIso2 b2 = .ok pin) :=
  ⟨iso0_roundtrip pin pan' (decoded_pin_is_pinOk b pan pin h) hp', iso2_roundtrip pin (decoded_pin_is_pinOk b pan pin h)⟩

/-- **translation into format 3 / format 4**, for every value of the random fill. Format 4 has its own PAN `pan4` of 1..19 digits:
a PAN admissible for formats 0 and 3 may be longer. -/
theorem translate_to_iso3_iso4 (c : Ciphers) (hc : c.Lawful) (b : Bytes) (pan pin : PyStr)
    (h : decodePinblockIso0 b pan = .ok pin ∨ decodePinblockIso2 b = .ok pin ∨ decodePinblockIso3 b pan = .ok pin ∨
         decodePinFieldIso4 b = .ok pin)
    (pan' : PyStr) (hp' : panOk13 pan' = true) (draws : Bytes) (fill : PyStr) (hd : choices 10 draws = some (fill, []))
    (key rnd : Bytes) (pan4 : PyStr) (hk : aesKeyOk key = true) (hr : rnd.length = 8)
    (h1 : 1 ≤ pan4.length) (h19 : pan4.length ≤ 19) (hn : asciiNumeric pan4 = true) :
    (∃ b3, encodePinblockIso3 pin pan' draws = .ok b3 ∧ decodePinblockIso3 b3 pan' = .ok pin) ∧
    (∃ b4, encipherPinblockIso4 c key pin pan4 rnd = .ok b4 ∧ decipherPinblockIso4 c key b4 pan4 = .ok pin) :=
  ⟨iso3_roundtrip pin pan' draws fill (decoded_pin_is_pinOk b pan pin h) hp' hd,
   iso4_encipher_roundtrip c hc key pin pan4 rnd hk (decoded_pin_is_pinOk b pan pin h) hr h1 h19 hn⟩

end Psec.Props.Translate
