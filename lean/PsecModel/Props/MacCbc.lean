import PsecModel.Props.C07
/-!
# Composition: the CBC-MAC of `psec.mac` is the last block of `psec.des.encrypt_tdes_cbc` (obligation of C07)

C07 and C19 joined on the library's own functions, so a peer that computes its MAC with a general-purpose CBC routine agrees
with `generate_cbc_mac`.
-/
namespace Psec.Props.MacCbc
open Psec.Props.C07 Psec.Props.C19

/-- **CBC-MAC = leftmost `n` bytes of the last ciphertext block of CBC under a zero IV over the padded message** -/
theorem cbcMac_is_last_cbc_block (c : Ciphers) (hc : c.Lawful) (key data : Bytes) (padding : Int) (n : Nat)
    (alg : Option Mac.Algo) (halg : alg = none ∨ alg = some .des)
    (hk : tdesKeyOk key = true) (hp : padding = 1 ∨ padding = 2 ∨ padding = 3)
    (hfit : padding = 3 → data.length * 8 < 256 ^ 8) :
    ∃ ct, Des.encryptTdesCbc c key (Spec.zeroBytes 8) (Spec.padBy (methodOf padding) data 8) = .ok ct ∧
      Mac.generateCbcMac c key data padding (some (n : Int)) alg = .ok ((lastN ct 8).take n) := by
  have henc := tdes_cbc_enc_ok c key (Spec.zeroBytes 8) _ hk rfl (Props.C08.padBy_posMult (methodOf padding) data 8 (by decide))
  refine ⟨_, henc, ?_⟩
  rw [generateCbcMac_des c key data padding _ alg halg]
  exact cbcMacWith_of_enc (by decide) hp hfit henc n

/-- **retail MAC = `E_{K1}(D_{K2}(last CBC block under K1))`**, spelt with the library's own `encrypt_tdes_cbc`,
`decrypt_tdes_ecb` and `encrypt_tdes_ecb` (keys of any admissible, possibly different, sizes) -/
theorem retailMac_is_cbc_then_ecb (c : Ciphers) (hc : c.Lawful) (key1 key2 data : Bytes) (padding : Int) (n : Nat)
    (hk1 : tdesKeyOk key1 = true) (hk2 : tdesKeyOk key2 = true) (hp : padding = 1 ∨ padding = 2 ∨ padding = 3)
    (hfit : padding = 3 → data.length * 8 < 256 ^ 8) :
    ∃ ct d e, Des.encryptTdesCbc c key1 (Spec.zeroBytes 8) (Spec.padBy (methodOf padding) data 8) = .ok ct ∧
      Des.decryptTdesEcb c key2 (lastN ct 8) = .ok d ∧ Des.encryptTdesEcb c key1 d = .ok e ∧
      Mac.generateRetailMac c key1 key2 data padding (some (n : Int)) = .ok (e.take n) := by
  have hpm := Props.C08.padBy_posMult (methodOf padding) data 8 (by decide)
  obtain ⟨hlast, _, hHl⟩ := cbcEnc_last_chain (c.tdesE key1) 8 (Spec.zeroBytes 8) _ (by decide) (hc.tdes_ed key1 hk1).enc_len hpm.1 hpm.2
  have hmac := retailMac_eq_mac3 c hc key1 key2 data padding n hk1 hk2 hp hfit
  rw [Spec.mac3] at hmac
  generalize Spec.chain (c.tdesE key1) (Spec.zeroBytes 8) _ = H at hlast hHl hmac
  exact ⟨_, c.tdesD key2 H, _, tdes_cbc_enc_ok c key1 (Spec.zeroBytes 8) _ hk1 rfl hpm,
    by rw [hlast]; exact tdes_ecb_dec_block c key2 H hk2 hHl,
    tdes_ecb_enc_block c key1 _ hk1 (hc.tdes_dec_len key2 H hk2 hHl), hmac⟩

end Psec.Props.MacCbc
