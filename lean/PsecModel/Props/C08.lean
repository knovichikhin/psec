import PsecModel.Model.Mac
import PsecModel.Spec.ISO9797
import PsecModel.Lemmas.Bytes
/-!
# C08 — ISO 9797-1 padding methods 1, 2 and 3 are exact

For every message `d` and every block size `bs ≥ 1`.
-/
namespace Psec.Props.C08

def PosMult (n bs : Nat) : Prop := 0 < n ∧ n % bs = 0

/-- the count of method 1 makes the length a positive multiple, and no smaller count does -/
theorem pad1Count_least (len bs : Nat) (hbs : 0 < bs) :
    PosMult (len + Spec.pad1Count len bs) bs ∧ ∀ j, j < Spec.pad1Count len bs → ¬ PosMult (len + j) bs := by
  have hr := Nat.mod_lt len hbs
  have key : ∀ j, (len + j) % bs = (len % bs + j) % bs := fun j => (Nat.mod_add_mod len bs j).symm
  unfold Spec.pad1Count PosMult
  split
  · subst len
    refine ⟨⟨by omega, by simp⟩, fun j hj hp => ?_⟩
    rw [Nat.zero_add, Nat.mod_eq_of_lt hj] at hp
    omega
  · by_cases hr0 : len % bs = 0
    · rw [hr0, Nat.sub_zero, Nat.mod_self]
      exact ⟨⟨by omega, hr0⟩, fun j hj => by omega⟩
    · rw [Nat.mod_eq_of_lt (show bs - len % bs < bs by omega), key, show len % bs + (bs - len % bs) = bs by omega, Nat.mod_self]
      refine ⟨⟨by omega, rfl⟩, fun j hj hp => ?_⟩
      rw [key, Nat.mod_eq_of_lt (by omega)] at hp
      omega

/-- **Method 1**: the model of `pad_iso_1` appends exactly `pad1Count` zero bytes -/
theorem pad1_spec (d : Bytes) (bs : Nat) (hbs : 0 < bs) :
    Mac.padIso1 d bs = .ok (Spec.pad1 d bs) := by
  unfold Mac.padIso1 Spec.pad1 Spec.pad1Count Mac.zeros Spec.zeroBytes
  have hbs' : bs ≠ 0 := by omega
  simp only [hbs', if_false]
  by_cases hr : d.length % bs > 0
  · have h0 : d.length ≠ 0 := by intro h; rw [h] at hr; simp at hr
    have hlt := Nat.mod_lt d.length hbs
    simp only [hr, if_true, h0, if_false, Nat.mod_eq_of_lt (show bs - d.length % bs < bs by omega)]
  · have hr0 : d.length % bs = 0 := by omega
    by_cases h0 : d.length = 0
    · have : d = [] := List.eq_nil_of_length_eq_zero h0
      subst this; simp
    · simp [hr0, h0]

theorem pad1_aligned (d : Bytes) (bs : Nat) (h : PosMult d.length bs) : Spec.pad1 d bs = d := by
  have h0 : d.length ≠ 0 := Nat.ne_of_gt h.1
  simp [Spec.pad1, Spec.pad1Count, Spec.zeroBytes, h0, h.2]

theorem pad2_eq_pad1 (d : Bytes) (bs : Nat) : Spec.pad2 d bs = Spec.pad1 (d ++ [0x80]) bs := by
  simp [Spec.pad1, Spec.pad2, Spec.pad1Count]

/-- **Method 2**: `0x80`, then the fewest zero bytes (`k < bs`) -/
theorem pad2_spec (d : Bytes) (bs : Nat) (hbs : 0 < bs) :
    Mac.padIso2 d bs = .ok (Spec.pad2 d bs) := by
  rw [Mac.padIso2, pad1_spec _ _ hbs, pad2_eq_pad1]

theorem pad2_count (len bs : Nat) (hbs : 0 < bs) :
    (bs - (len + 1) % bs) % bs < bs ∧ (len + 1 + (bs - (len + 1) % bs) % bs) % bs = 0 ∧
    ∀ j, j < (bs - (len + 1) % bs) % bs → (len + 1 + j) % bs ≠ 0 := by
  have h := pad1Count_least (len + 1) bs hbs
  unfold Spec.pad1Count PosMult at h
  simp only [Nat.add_one_ne_zero, if_false] at h
  refine ⟨Nat.mod_lt _ hbs, h.1.2, ?_⟩
  intro j hj hz
  exact h.2 j hj ⟨by omega, hz⟩

theorem beBytes_eq (k n : Nat) : Spec.beBytes k n = toBytesBEAux k n [] := by
  induction k generalizing n with
  | zero => rfl
  | succ k ih => rw [toBytesBEAux_succ, Spec.beBytes, ih]

/-- **Method 3**: one block with the bit length big-endian, then method 1; `OverflowError` exactly when the bit length does not fit -/
theorem pad3_spec (d : Bytes) (bs : Nat) (hbs : 0 < bs) :
    Mac.padIso3 d bs =
      if d.length * 8 < 256 ^ bs then .ok (Spec.pad3 d bs) else .error (.other "OverflowError") := by
  unfold Mac.padIso3
  have hbs' : bs ≠ 0 := by omega
  simp only [hbs', if_false]
  by_cases hfit : d.length * 8 < 256 ^ bs
  · rw [toBytesBE_of_lt _ _ hfit, pad1_spec _ _ hbs]
    simp only [hfit, if_true, Spec.pad3, beBytes_eq, Nat.mul_comm 8]
  · rw [toBytesBE_none _ _ hfit]; simp [hfit]

theorem pad1_posMult (d : Bytes) (bs : Nat) (hbs : 0 < bs) : PosMult (Spec.pad1 d bs).length bs := by
  simpa [Spec.pad1, Spec.zeroBytes] using (pad1Count_least d.length bs hbs).1

/-- the length block of method 3 is a whole block even when the bit count does not fit it -/
theorem pad3_posMult (d : Bytes) (bs : Nat) (hbs : 0 < bs) : PosMult (Spec.pad3 d bs).length bs := by
  have := pad1_posMult d bs hbs
  unfold PosMult Spec.pad3 at *
  simp only [List.length_append, beBytes_eq, toBytesBEAux_length]
  exact ⟨by omega, by rw [Nat.add_mod, this.2]; simp⟩

/-- the result is always a positive multiple of the block size -/
theorem pad_length (d : Bytes) (bs : Nat) (hbs : 0 < bs) :
    PosMult (Spec.pad1 d bs).length bs ∧ PosMult (Spec.pad2 d bs).length bs ∧
    (d.length * 8 < 256 ^ bs → PosMult (Spec.pad3 d bs).length bs) :=
  ⟨pad1_posMult d bs hbs, pad2_eq_pad1 d bs ▸ pad1_posMult _ bs hbs, fun _ => pad3_posMult d bs hbs⟩

theorem padBy_posMult (m : Nat) (d : Bytes) (bs : Nat) (hbs : 0 < bs) : PosMult (Spec.padBy m d bs).length bs := by
  unfold Spec.padBy
  split
  · exact pad1_posMult d bs hbs
  · split
    · exact (pad_length d bs hbs).2.1
    · exact pad3_posMult d bs hbs

/-- the result starts with the message (method 3: after one block) -/
theorem pad_prefix (d : Bytes) (bs : Nat) :
    (Spec.pad1 d bs).take d.length = d ∧ (Spec.pad2 d bs).take d.length = d ∧
    ((Spec.pad3 d bs).drop bs).take d.length = d := by
  refine ⟨by simp [Spec.pad1], by simp [Spec.pad2], ?_⟩
  unfold Spec.pad3
  rw [List.drop_left' (by rw [beBytes_eq, toBytesBEAux_length])]
  simp [Spec.pad1]

/-! Methods 2 and 3 are injective because they have explicit left inverses. -/

def stripZeros (l : Bytes) : Bytes := (l.reverse.dropWhile (· == 0)).reverse
/-- remove trailing zeros, then the mandatory `0x80` -/
def unpad2 (l : Bytes) : Bytes := (stripZeros l).dropLast
/-- read the bit length from the first block -/
def unpad3 (bs : Nat) (l : Bytes) : Bytes := (l.drop bs).take (fromBytesBE (l.take bs) / 8)

theorem unpad2_pad2 (d : Bytes) (bs : Nat) : unpad2 (Spec.pad2 d bs) = d := by
  unfold unpad2 stripZeros Spec.pad2 Spec.zeroBytes
  rw [List.reverse_append, List.reverse_replicate,
    List.dropWhile_append_of_pos fun _ h => beq_iff_eq.mpr (List.eq_of_mem_replicate h)]
  -- `0x80 ≠ 0` stops `dropWhile` at the marker, which `dropLast` removes
  rw [List.reverse_append, List.reverse_singleton, List.singleton_append, List.dropWhile_cons_of_neg (by decide),
    List.reverse_cons, List.reverse_reverse, List.dropLast_concat]

theorem unpad3_pad3 (d : Bytes) (bs : Nat) (hfit : d.length * 8 < 256 ^ bs) : unpad3 bs (Spec.pad3 d bs) = d := by
  unfold unpad3 Spec.pad3
  have hl : (Spec.beBytes bs (8 * d.length)).length = bs := by rw [beBytes_eq, toBytesBEAux_length]
  rw [List.take_left' hl, List.drop_left' hl, beBytes_eq, fromBytesBE_toBytesBEAux,
    Nat.mod_eq_of_lt (by omega), Nat.mul_div_cancel_left _ (by decide)]
  simp [Spec.pad1]

/-- **Method 2 is injective**, for every block size -/
theorem pad2_injective (d1 d2 : Bytes) (bs : Nat) (h : Spec.pad2 d1 bs = Spec.pad2 d2 bs) : d1 = d2 := by
  rw [← unpad2_pad2 d1 bs, h, unpad2_pad2]

/-- **Method 3 is injective** on messages whose bit length fits in one block -/
theorem pad3_injective (d1 d2 : Bytes) (bs : Nat) (h1 : d1.length * 8 < 256 ^ bs) (h2 : d2.length * 8 < 256 ^ bs)
    (h : Spec.pad3 d1 bs = Spec.pad3 d2 bs) : d1 = d2 := by
  rw [← unpad3_pad3 d1 bs h1, h, unpad3_pad3 d2 bs h2]

/-- method 1 is not injective (so the distinction the property draws is real) -/
theorem pad1_not_injective : Spec.pad1 [] 8 = Spec.pad1 [0] 8 ∧ ([] : Bytes) ≠ [0] := by decide

theorem default_block_size : Mac.bsDefault none = 8 := rfl

example : (Mac.padIso3 (hexb "1234") 8).toOption = some (hexb "00000000000000101234000000000000") := by decide +kernel
example : (Mac.padIso2 (hexb "1234567890123456") 8).toOption = some (hexb "12345678901234568000000000000000") := by decide +kernel

end Psec.Props.C08
