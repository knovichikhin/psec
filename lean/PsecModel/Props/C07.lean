import PsecModel.Model.Mac
import PsecModel.Lemmas.Cbc
import PsecModel.Props.C08
import PsecModel.Lemmas.Modes
import PsecModel.Lemmas.Result
/-!
# C07 — MACs equal ISO 9797-1 algorithm 1 (CBC-MAC) and algorithm 3 (retail MAC)

`Spec.mac1` / `Spec.mac3` are the standard's recurrence `H₀ = 0, Hᵢ = E(Dᵢ ⊕ Hᵢ₋₁)`. The only fact about the cipher that is
used is that a block operation returns a block (`c.Lawful`'s length laws). `generate_cbc_mac` is `cbcMacWith` at the block size and
CBC wrapper of the chosen algorithm, and what is proved about it is proved there, for any block size and block function.
-/
namespace Psec.Props.C07
open Psec.Props.C08

/-- `padding ∈ {1,2,3}` as the specification's method number -/
def methodOf (padding : Int) : Nat := padding.toNat

theorem padDispatch_ok (padding : Int) (data : Bytes) (bs : Nat) (hbs : 0 < bs)
    (hp : padding = 1 ∨ padding = 2 ∨ padding = 3) (hfit : padding = 3 → data.length * 8 < 256 ^ bs) :
    Mac.padDispatch padding data bs = .ok (Spec.padBy (methodOf padding) data bs) := by
  unfold Mac.padDispatch Spec.padBy methodOf
  rcases hp with h | h | h <;> subst h
  · simp [pad1_spec _ _ hbs]
  · simp [pad2_spec _ _ hbs]
  · simp [pad3_spec _ _ hbs, hfit rfl]

theorem padDispatch_bad (padding : Int) (data : Bytes) (bs : Nat)
    (hp : ¬ (padding = 1 ∨ padding = 2 ∨ padding = 3)) : Mac.padDispatch padding data bs = .error .value := by
  rw [Mac.padDispatch, if_neg fun h => hp (.inl h), if_neg fun h => hp (.inr (.inl h)), if_neg fun h => hp (.inr (.inr h))]

/-- an unknown padding method is `ValueError` in both MAC functions, whatever the other arguments -/
theorem mac_bad_padding (c : Ciphers) (key key2 data : Bytes) (padding : Int) (length : Option Int) (alg : Option Mac.Algo)
    (hp : ¬ (padding = 1 ∨ padding = 2 ∨ padding = 3)) :
    Mac.generateCbcMac c key data padding length alg = .error .value ∧
    Mac.generateRetailMac c key key2 data padding length = .error .value := by
  unfold Mac.generateCbcMac Mac.generateRetailMac
  simp [padDispatch_bad padding data _ hp]

/-- the code's zero IV is the standard's `H₀` -/
theorem zeros_eq_zeroBytes : Mac.zeros = Spec.zeroBytes := rfl

/-- `generate_cbc_mac` once the algorithm is chosen: `bs` its block size, `enc` its CBC wrapper under the key -/
def cbcMacWith (bs : Nat) (enc : Bytes → Bytes → R Bytes) (data : Bytes) (padding : Int) (length : Option Int) : R Bytes :=
  match Mac.padDispatch padding data bs with
  | .error e => .error e
  | .ok data =>
    match enc (Mac.zeros bs) data with
    | .error e => .error e
    | .ok out => .ok (pyTake (lastN out bs) (length.getD bs))

theorem generateCbcMac_des (c : Ciphers) (key data : Bytes) (padding : Int) (length : Option Int) (alg : Option Mac.Algo)
    (halg : alg = none ∨ alg = some .des) :
    Mac.generateCbcMac c key data padding length alg = cbcMacWith 8 (Des.encryptTdesCbc c key) data padding length := by
  rcases halg with rfl | rfl <;> rfl

theorem generateCbcMac_aes (c : Ciphers) (key data : Bytes) (padding : Int) (length : Option Int) :
    Mac.generateCbcMac c key data padding length (some .aes) = cbcMacWith 16 (Aes.encryptAesCbc c key) data padding length := rfl

section
variable {bs : Nat} {E : Bytes → Bytes} {enc : Bytes → Bytes → R Bytes} {data : Bytes} {padding : Int}

theorem cbcMacWith_of_enc (hbs : 0 < bs) (hp : padding = 1 ∨ padding = 2 ∨ padding = 3)
    (hfit : padding = 3 → data.length * 8 < 256 ^ bs) {ct : Bytes}
    (h : enc (Mac.zeros bs) (Spec.padBy (methodOf padding) data bs) = .ok ct) (n : Nat) :
    cbcMacWith bs enc data padding (some (n : Int)) = .ok ((lastN ct bs).take n) := by
  simp only [cbcMacWith, padDispatch_ok padding data bs hbs hp hfit, h, Option.getD_some, pyTake_nat]

theorem cbcMacWith_eq_mac1 (hbs : 0 < bs) (hE : ∀ b, b.length = bs → (E b).length = bs)
    (henc : ∀ P, Props.C19.DataOk bs P → enc (Mac.zeros bs) P = .ok (cbcEncUpdate E bs (P.length / bs) (Mac.zeros bs) P).1)
    (hp : padding = 1 ∨ padding = 2 ∨ padding = 3) (hfit : padding = 3 → data.length * 8 < 256 ^ bs) (n : Nat) :
    cbcMacWith bs enc data padding (some (n : Int)) = .ok (Spec.mac1 E bs (Spec.padBy (methodOf padding) data bs) n) := by
  have hpm := padBy_posMult (methodOf padding) data bs hbs
  rw [cbcMacWith_of_enc hbs hp hfit (henc _ hpm) n, zeros_eq_zeroBytes, (cbcEnc_last_chain E bs _ _ hbs hE hpm.1 hpm.2).1]
  rfl

/-- `henc` has the form of a CBC wrapper's equation in `Lemmas/Modes` (`tdes_cbc_enc_eq`, `aes_cbc_enc_eq`), `k` being its key
check. -/
theorem cbcMacWith_eq {k : Bool} (hbs : 0 < bs) (hE : k = true → ∀ b, b.length = bs → (E b).length = bs)
    (henc : ∀ P, enc (Mac.zeros bs) P = if Props.C19.DataOk bs P ∧ k = true ∧ (Mac.zeros bs).length = bs then
      .ok (cbcEncUpdate E bs (P.length / bs) (Mac.zeros bs) P).1 else .error .value)
    (hfit : padding = 3 → data.length * 8 < 256 ^ bs) (n : Nat) :
    cbcMacWith bs enc data padding (some (n : Int)) =
      if k = true ∧ (padding = 1 ∨ padding = 2 ∨ padding = 3) then
        .ok (Spec.mac1 E bs (Spec.padBy (methodOf padding) data bs) n) else .error .value := by
  by_cases hp : padding = 1 ∨ padding = 2 ∨ padding = 3
  · by_cases hk : k = true
    · rw [if_pos ⟨hk, hp⟩]
      exact cbcMacWith_eq_mac1 hbs (hE hk) (fun P hP => (henc P).trans (if_pos ⟨hP, hk, List.length_replicate⟩)) hp hfit n
    · simp [cbcMacWith, padDispatch_ok padding data bs hbs hp hfit, henc, hk]
  · simp [cbcMacWith, padDispatch_bad padding data bs hp, hp]
end

theorem generateCbcMac_des_eq (c : Ciphers) (hc : c.Lawful) (key data : Bytes) (padding : Int) (n : Nat)
    (alg : Option Mac.Algo) (halg : alg = none ∨ alg = some .des) (hfit : padding = 3 → data.length * 8 < 256 ^ 8) :
    Mac.generateCbcMac c key data padding (some (n : Int)) alg =
      if tdesKeyOk key = true ∧ (padding = 1 ∨ padding = 2 ∨ padding = 3) then
        .ok (Spec.mac1 (c.tdesE key) 8 (Spec.padBy (methodOf padding) data 8) n) else .error .value := by
  rw [generateCbcMac_des c key data padding _ alg halg]
  exact cbcMacWith_eq (by decide) (fun hk => (hc.tdes_ed key hk).enc_len) (Props.C19.tdes_cbc_enc_eq c key _) hfit n

theorem generateCbcMac_aes_eq (c : Ciphers) (hc : c.Lawful) (key data : Bytes) (padding : Int) (n : Nat)
    (hfit : padding = 3 → data.length * 8 < 256 ^ 16) :
    Mac.generateCbcMac c key data padding (some (n : Int)) (some .aes) =
      if aesKeyOk key = true ∧ (padding = 1 ∨ padding = 2 ∨ padding = 3) then
        .ok (Spec.mac1 (c.aesE key) 16 (Spec.padBy (methodOf padding) data 16) n) else .error .value :=
  cbcMacWith_eq (by decide) (fun hk => (hc.aes_ed key hk).enc_len) (Props.C19.aes_cbc_enc_eq c key _) hfit n

/-- **CBC-MAC (TDES) = ISO 9797-1 MAC algorithm 1**, leftmost `n` bytes. Where `hfit` fails, method 3 raises `OverflowError`
(`C08.pad3_spec`). -/
theorem cbcMac_des_eq_mac1 (c : Ciphers) (hc : c.Lawful) (key data : Bytes) (padding : Int) (n : Nat)
    (alg : Option Mac.Algo) (halg : alg = none ∨ alg = some .des)
    (hk : tdesKeyOk key = true) (hp : padding = 1 ∨ padding = 2 ∨ padding = 3)
    (hfit : padding = 3 → data.length * 8 < 256 ^ 8) :
    Mac.generateCbcMac c key data padding (some (n : Int)) alg =
      .ok (Spec.mac1 (c.tdesE key) 8 (Spec.padBy (methodOf padding) data 8) n) := by
  rw [generateCbcMac_des_eq c hc key data padding n alg halg hfit, if_pos ⟨hk, hp⟩]

/-- **CBC-MAC (AES) = ISO 9797-1 MAC algorithm 1** with 16-byte blocks -/
theorem cbcMac_aes_eq_mac1 (c : Ciphers) (hc : c.Lawful) (key data : Bytes) (padding : Int) (n : Nat)
    (hk : aesKeyOk key = true) (hp : padding = 1 ∨ padding = 2 ∨ padding = 3)
    (hfit : padding = 3 → data.length * 8 < 256 ^ 16) :
    Mac.generateCbcMac c key data padding (some (n : Int)) (some .aes) =
      .ok (Spec.mac1 (c.aesE key) 16 (Spec.padBy (methodOf padding) data 16) n) := by
  rw [generateCbcMac_aes_eq c hc key data padding n hfit, if_pos ⟨hk, hp⟩]

/-- the default length is the block size: the full MAC -/
theorem cbcMac_default_length (c : Ciphers) (key data : Bytes) (padding : Int) (alg : Option Mac.Algo) :
    Mac.generateCbcMac c key data padding none alg =
      Mac.generateCbcMac c key data padding (some ((if alg = some Mac.Algo.aes then 16 else 8 : Nat) : Int)) alg := rfl

/-- a shorter requested length returns the leftmost bytes of the full MAC -/
theorem mac1_truncation (E : Bytes → Bytes) (bs : Nat) (padded : Bytes) (n : Nat) (h : n ≤ bs) :
    Spec.mac1 E bs padded n = (Spec.mac1 E bs padded bs).take n := by
  unfold Spec.mac1; rw [List.take_take, Nat.min_eq_left h]

theorem mac3_truncation (E D : Bytes → Bytes) (bs : Nat) (padded : Bytes) (n : Nat) (h : n ≤ bs) :
    Spec.mac3 E D bs padded n = (Spec.mac3 E D bs padded bs).take n := by
  unfold Spec.mac3; rw [List.take_take, Nat.min_eq_left h]

theorem mac1_length (E : Bytes → Bytes) (bs : Nat) (padded : Bytes) (n : Nat) (hbs : 0 < bs)
    (hE : ∀ b, b.length = bs → (E b).length = bs) (hp : PosMult padded.length bs) (hn : n ≤ bs) :
    (Spec.mac1 E bs padded n).length = n := by
  rw [Spec.mac1, List.length_take, (cbcEnc_last_chain E bs _ padded hbs hE hp.1 hp.2).2.2]
  omega

theorem mac1_block (E : Bytes → Bytes) (bs : Nat) (hbs : 0 < bs) (hE : ∀ b, b.length = bs → (E b).length = bs)
    (X : Bytes) (hX : X.length = bs) : Spec.mac1 E bs X bs = E X := by
  rw [Spec.mac1, hX, blocksOf_one bs hbs bs hbs X hX]
  simp only [Spec.chain, Spec.zeroBytes]
  rw [xorBytes_zeros, List.take_of_length_le (Nat.le_of_eq (hE X hX))]

theorem cbcMacWith_block {bs : Nat} {E : Bytes → Bytes} {enc : Bytes → Bytes → R Bytes} (hbs : 0 < bs)
    (hE : ∀ b, b.length = bs → (E b).length = bs)
    (henc : ∀ P, Props.C19.DataOk bs P → enc (Mac.zeros bs) P = .ok (cbcEncUpdate E bs (P.length / bs) (Mac.zeros bs) P).1)
    (X : Bytes) (hX : X.length = bs) : cbcMacWith bs enc X 1 (some (bs : Int)) = .ok (E X) := by
  rw [cbcMacWith_eq_mac1 hbs hE henc (Or.inl rfl) nofun bs]
  show Except.ok (Spec.mac1 E bs (Spec.pad1 X bs) bs) = _
  rw [pad1_aligned X bs ⟨by omega, by rw [hX, Nat.mod_self]⟩, mac1_block E bs hbs hE X hX]

/-- **Retail MAC = ISO 9797-1 MAC algorithm 3**: `E_{K1}(D_{K2}(H_q))`, `H` chained under `K1`. `key1` and `key2` may have
different sizes. -/
theorem retailMac_eq_mac3 (c : Ciphers) (hc : c.Lawful) (key1 key2 data : Bytes) (padding : Int) (n : Nat)
    (hk1 : tdesKeyOk key1 = true) (hk2 : tdesKeyOk key2 = true) (hp : padding = 1 ∨ padding = 2 ∨ padding = 3)
    (hfit : padding = 3 → data.length * 8 < 256 ^ 8) :
    Mac.generateRetailMac c key1 key2 data padding (some (n : Int)) =
      .ok (Spec.mac3 (c.tdesE key1) (c.tdesD key2) 8 (Spec.padBy (methodOf padding) data 8) n) := by
  have hbs : 0 < 8 := by decide
  have hpm := padBy_posMult (methodOf padding) data 8 hbs
  obtain ⟨hlast, hcv, hxl⟩ := cbcEnc_last_chain (c.tdesE key1) 8 (Spec.zeroBytes 8) _ hbs (hc.tdes_ed key1 hk1).enc_len hpm.1 hpm.2
  unfold Mac.generateRetailMac Spec.mac3
  simp only [padDispatch_ok padding data 8 hbs hp hfit, hk1, hk2, not_true_eq_false, if_false, Option.getD_some,
    pyTake_nat, zeros_eq_zeroBytes, hlast, hcv]
  generalize Spec.chain (c.tdesE key1) (Spec.zeroBytes 8) _ = x at hxl
  -- psec decrypts the block `x` in CBC with IV `x`, which gives `D(x) ⊕ x`, and feeds that to the encryptor it left open, whose
  -- chaining value is `x`: the two XORs cancel
  have hdl : (xorBytes (c.tdesD key2 x) x).length = 8 := by rw [xorBytes_length, hc.tdes_dec_len key2 x hk2 hxl]
  rw [cbcDec_one _ x hxl, hdl, cbcEnc_one _ x hdl, xorBytes_cancel]

theorem generateRetailMac_eq (c : Ciphers) (hc : c.Lawful) (key1 key2 data : Bytes) (padding : Int) (n : Nat)
    (hfit : padding = 3 → data.length * 8 < 256 ^ 8) :
    Mac.generateRetailMac c key1 key2 data padding (some (n : Int)) =
      if tdesKeyOk key1 = true ∧ tdesKeyOk key2 = true ∧ (padding = 1 ∨ padding = 2 ∨ padding = 3) then
        .ok (Spec.mac3 (c.tdesE key1) (c.tdesD key2) 8 (Spec.padBy (methodOf padding) data 8) n) else .error .value := by
  split
  · next h => exact retailMac_eq_mac3 c hc key1 key2 data padding n h.1 h.2.1 h.2.2 hfit
  · next h =>
    unfold Mac.generateRetailMac
    by_cases hp : padding = 1 ∨ padding = 2 ∨ padding = 3
    · rw [padDispatch_ok padding data 8 (by decide) hp hfit]
      exact guard_value fun g1 => guard_value fun g2 => absurd ⟨Decidable.not_not.mp g1, Decidable.not_not.mp g2, hp⟩ h
    · rw [padDispatch_bad padding data 8 hp]

/-- one-block message: the retail MAC is `E_{k1}(D_{k2}(E_{k1}(D₁)))` -/
theorem retail_single_block (c : Ciphers) (key1 key2 d1 : Bytes) (n : Nat) (h : d1.length = 8) :
    Spec.mac3 (c.tdesE key1) (c.tdesD key2) 8 d1 n = (c.tdesE key1 (c.tdesD key2 (c.tdesE key1 d1))).take n := by
  unfold Spec.mac3
  rw [h, blocksOf_one 8 (by decide) 8 (by decide) d1 h]
  simp only [Spec.chain, Spec.zeroBytes]
  rw [xorBytes_zeros]

end Psec.Props.C07
