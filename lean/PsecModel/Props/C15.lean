import PsecModel.Lemmas.Reachable
import PsecModel.Lemmas.Framing
import PsecModel.Lemmas.WrapAll
/-!
C15 — TR-31 parsing fails only with its documented errors. For every string (any code points), every KBPK (any length) and every
prior object state, unwrapping and header loading return a value or fail with `HeaderError` / `KeyBlockError`; so does wrapping,
for every object reachable through the API (`Header.WF`, an invariant: `Lemmas/Reachable.lean`). Termination is totality of the
definitions. Modelled rather than verified: which Python operations can raise.
-/
namespace Psec.Props.C15
open Psec.Tr31 Psec.Props.C17

/-- fails only with `HeaderError` or `KeyBlockError` -/
def Documented {α} (r : R α) : Prop := ∀ e, r = .error e → e = .header ∨ e = .keyblock

theorem loadPure_spec (t : PyStr) :
    (∀ e, loadPure t = .error e → e = .header) ∧
    (∀ n hdr, loadPure t = .ok (n, hdr) → 16 ≤ n ∧ n ≤ t.length ∧ asciiPrintable (t.take n) = true ∧
      versionOk hdr.versionId = true ∧ hdr.versionId = t.take 1) := by
  refine ⟨fun e he => ?_, fun n hdr h => ?_⟩
  · rw [loadPure_eq] at he
    split at he
    · cases hb : (optBlocks t).1 with
      | error e' => rw [hb] at he; cases he; exact (optBlocks_spec t).header _ hb
      | ok len => rw [hb] at he; cases he
    · cases he; rfl
  · obtain ⟨h1, h2, h3, _, len, hb, rfl, hv, _⟩ := (loadPure_ok_iff t n hdr).mp h
    obtain ⟨k, rfl, hkl, hkp⟩ := (optBlocks_spec t).consumed len (by rw [optBlocks, hb])
    rw [List.length_drop] at hkl
    refine ⟨by omega, by omega, ?_, hv ▸ h3, hv⟩
    rw [Nat.zero_add, List.take_add, asciiPrintable_append, alnum_printable h1, hkp]; rfl

theorem tail_onlyErr (c : Ciphers) (hc : c.Lawful) (kbpk : Bytes) (s : PyStr) (p : Nat × Header)
    (hp : loadPure s = .ok p) : OnlyErr IsKb (unwrapTail c kbpk p.2.versionId s p.1) := by
  obtain ⟨hn, hns, hpr, hv, -⟩ := (loadPure_spec s).2 p.1 p.2 hp
  obtain ⟨hbs, hml⟩ := methodOf_algo c _ hv
  unfold unwrapTail
  simp only [hbs, hml]
  refine .ite (fun _ => .error rfl) fun _ => .ite (fun _ => .error rfl) fun _ => .ite (fun _ => .error rfl) fun _ => ?_
  cases fromHexWs (lastN (s.drop p.1) ((methodOf c p.2.versionId).ml * 2)) with
  | none => exact .error rfl
  | some mac =>
    refine .ite (fun _ => .error rfl) fun hm => ?_
    cases fromHexWs (dropLastN (s.drop p.1) ((methodOf c p.2.versionId).ml * 2)) with
    | none => exact .error rfl
    | some kd =>
      simp only [unwrapDispatch_eq]
      exact Method.unwrap_onlyErr (methodOf_safe c hc _) kbpk _ kd mac hpr (by rw [List.length_take]; omega)
        (Decidable.not_not.mp hm) (version_align _ _ _ hbs hml).1

/-- `KeyBlock.unwrap`, for every string, every KBPK and every prior state -/
theorem unwrap_errors (c : Ciphers) (hc : c.Lawful) (kb : KB) (s : PyStr) : Documented (KB.unwrap c kb s).1 := by
  rw [unwrap_eq]
  exact OnlyErr.bind (OnlyErr.mono (loadPure_spec s).1 fun _ => .inl) fun p hp => (tail_onlyErr c hc _ s p hp).mono fun _ => .inr

theorem unwrapFn_errors (c : Ciphers) (hc : c.Lawful) (kbpk : Bytes) (s : PyStr) : Documented (unwrapFn c kbpk s) := by
  rw [unwrapFn_eq]
  exact OnlyErr.bind (OnlyErr.mono (loadPure_spec s).1 fun _ => .inl) fun p hp =>
    ((tail_onlyErr c hc _ s p hp).mono fun _ => .inr).map

theorem load_onlyErr (σ : Header) (t : PyStr) : OnlyErr (· = .header) (σ.load t).1 :=
  (load_eq_pure σ t).1 ▸ OnlyErr.map (loadPure_spec t).1

theorem Documented.of_header {α} {r : R α} (h : OnlyErr (· = .header) r) : Documented r := h.mono fun _ => .inl

theorem load_documented (σ : Header) (t : PyStr) : Documented (σ.load t).1 := .of_header (load_onlyErr σ t)

theorem init_eq (kbpk : Bytes) (t : PyStr) :
    KB.init kbpk (.str t) = (Header.fresh.load t).1.map fun _ => { kbpk := kbpk, header := (Header.fresh.load t).2 } := by
  simp only [KB.init]
  cases (Header.fresh.load t).1 <;> rfl

/-- the header API: `Header.load`, `KeyBlock(kbpk, "…")`, the attribute setters, block assignment -/
theorem header_api_errors (σ : Header) (t v k : PyStr) (kbpk : Bytes) :
    Documented (σ.load t).1 ∧ Documented (KB.init kbpk (.str t)) ∧
    Documented (setVersionId σ v) ∧ Documented (setKeyUsage σ v) ∧ Documented (setAlgorithm σ v) ∧
    Documented (setModeOfUse σ v) ∧ Documented (setVersionNum σ v) ∧ Documented (setExportability σ v) ∧
    Documented (blocksSet σ.blocks k v) := by
  have set : ∀ {p : Prop} [Decidable p] (h : Header), Documented (if p then .error .header else .ok h) :=
    fun h => .of_header (.ite (fun _ => .error rfl) fun _ => .ok _)
  exact ⟨load_documented σ t, .of_header (init_eq kbpk t ▸ (load_onlyErr _ t).map),
    .of_header (.ite (fun _ => .ok _) fun _ => .error rfl), set _, set _, set _, set _, set _,
    .of_header (blocksSet_spec σ.blocks k v).1⟩

/-- the documented errors, or `other "entropy"`: the caller of the model supplied the wrong amount of entropy — an artefact of making
entropy an argument, not an outcome of the code -/
def DocumentedW {α} (r : R α) : Prop := ∀ e, r = .error e → e = .header ∨ e = .keyblock ∨ e = .other "entropy"

theorem dumpOne_onlyErr (id data : PyStr) : OnlyErr (· = .header) (dumpOne id data) :=
  .ite (fun _ => .ok _) fun _ => .ite (fun _ => .ok _) fun _ => .error rfl

theorem dumpAll_onlyErr : ∀ d : Dict, OnlyErr (· = .header) (dumpAll d)
  | [] => .ok _
  | (id, data) :: r => dumpAll_cons id data r ▸
      (dumpOne_onlyErr id data).bind fun _ _ => (dumpAll_onlyErr r).bind fun _ _ => .ok _

theorem blocksDump_onlyErr (d : Dict) (bs : Nat) : OnlyErr (· = .header) (blocksDump d bs) :=
  blocksDump_eq d bs ▸ (dumpAll_onlyErr d).bind fun _ _ =>
    .ite (fun _ => .ite (fun _ => .error rfl) fun _ => .ok _) fun _ => .ite (fun _ => .error rfl) fun _ => .ok _

theorem dump_onlyErr (h : Header) (hv : versionOk h.versionId = true) (keyLen : Nat) :
    OnlyErr (· = .header) (h.dump keyLen) := by
  obtain ⟨bs, ml, hbs, hml⟩ := versionOk_bs _ hv
  exact dump_eq h keyLen hbs hml ▸ (blocksDump_onlyErr _ _).bind fun _ _ => .ite (fun _ => .error rfl) fun _ => .ok _

/-- `KeyBlock.wrap`, on every object whose header fields are as the setters admit them (every reachable object) -/
theorem wrap_errors (c : Ciphers) (hc : c.Lawful) (kb : KB) (hw : kb.header.WF) (key : Bytes) (mask : Option Int)
    (entropy : Bytes) : DocumentedW (kb.wrap c key mask entropy) := by
  rw [wrap_eq, if_neg (not_not_intro hw.ver)]
  refine OnlyErr.bind ((dump_onlyErr _ hw.ver _).mono fun _ => .inl) fun hdr hd => ?_
  obtain ⟨hbs, hml⟩ := methodOf_algo c _ hw.ver
  obtain ⟨n, blocks, hbd, hle, hhdr⟩ := dump_ok hbs hml hd
  obtain ⟨hpos, hb16, _⟩ := version_align _ _ _ hbs hml
  obtain ⟨_, _, _, _, hn99, _⟩ := blocksDump_shape _ _ n blocks hpos hbd
  have hpr : asciiPrintable hdr = true :=
    hhdr ▸ assemble_printable _ hw _ _ _ hle hn99 (blocksDump_printable _ _ n blocks hpos hb16 hw.blocks hbd)
  have hhl : hdr.length = 16 + blocks.length := hhdr ▸ assemble_length _ hw _ _ _ hle hn99
  -- the key is no longer than its masked length, whose hex digits are part of a block of at most 9999 characters (`hle`)
  have := maskedLen_ge kb.header key.length mask
  exact (Method.wrap_onlyErr (methodOf_safe c hc _) hpos _ hdr key _ entropy hpr (by omega) (by omega)).mono
    fun _ h => h.elim (.inr ∘ .inl) (.inr ∘ .inr)

end Psec.Props.C15
