import PsecModel.Conc
import PsecModel.Generated.Effects
/-!
# C18 — deterministic operations are pure under repetition, interleaving and threads

`Generated/Effects.lean` is regenerated from the repository's Python source on every run. `effects_ok` re-checks, by kernel
evaluation, that no function of the package writes a module- or class-level object, writes through a parameter, uses a dynamic
escape hatch, or writes `self` outside the methods that are meant to (`Conc.allowedSelfWriters`); the corollaries instantiate
`Conc.schedule_independent` with the step semantics of the summaries. That the summary is right about the source
(`harness/effects.py`) and the CPython / OpenSSL runtime are assumed.
-/
namespace Psec.Props.C18
open Psec.Conc Psec.Generated

theorem effects_ok : checkEffects functions moduleLevelWrites = true := by decide +kernel

theorem every_function_clean : ∀ f ∈ functions, fnClean f = true := by
  have h := effects_ok
  unfold checkEffects at h
  simp only [Bool.and_eq_true, List.all_eq_true] at h
  exact h.1.1

theorem every_step_readOnly (nv : String → Nat → Nat) (cp : List (String × Nat) → Nat → Nat) :
    ∀ f ∈ functions, (stepOf f nv cp).ReadOnly :=
  fun f hf => stepOf_readOnly f nv cp (fnClean_shared f (every_function_clean f hf))

/-- C18 at model level: any number of threads, each running any sequence of the package's functions, under every schedule: the
shared store is unchanged and each thread's result is the one it computes alone. -/
theorem schedule_independent_instance
    (nv : String → Nat → Nat) (cp : List (String × Nat) → Nat → Nat)
    (g : List (String × Nat)) (progs : List (List FnEffect × Nat))
    (hmem : ∀ p ∈ progs, ∀ f ∈ p.1, f ∈ functions) (sched : List Nat) :
    let c : Cfg (List (String × Nat)) Nat :=
      { glob := g, thr := progs.map (fun p => { prog := p.1.map (fun f => stepOf f nv cp), loc := p.2 }) }
    (exec c sched).glob = g ∧ (exec c sched).thr.map (finalOf g) = c.thr.map (finalOf g) := by
  intro c
  apply schedule_independent
  intro th hth s hs
  simp only [c, List.mem_map] at hth
  obtain ⟨p, hp, rfl⟩ := hth
  simp only [List.mem_map] at hs
  obtain ⟨f, hf, rfl⟩ := hs
  exact every_step_readOnly nv cp f (hmem p hp f hf)

/-- non-vacuity: the summary is not empty -/
example : functions.length ≥ 40 := by decide

end Psec.Props.C18
