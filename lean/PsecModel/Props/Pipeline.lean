import PsecModel.Props.C04
import PsecModel.Props.C11
import PsecModel.Props.C10
/-!
# Composition across modules: PIN issuance pipeline

What a caller who chains the function families relies on: a PIN derived by `generate_ibm3624_pin` (for an offset of 4 to 12
digits) is inside the domain of the ISO 9564 encoders, and carrying it in a format 0 / format 2 PIN block and decoding it on the
other side gives back a PIN from which `generate_ibm3624_offset` recovers the original offset. Obligations of C11.
-/
namespace Psec.Props.Pipeline
open Psec.Card Psec.Pinblock Psec.Props.C04 Psec.Props.C11

theorem ibm_pin_ok_inv (c : Ciphers) (hc : c.Lawful) (pvk : Bytes) (table offs pan : PyStr) (off len : Nat)
    (pad : PyStr) (h : Dom pvk table offs pan off len pad) (h12 : offs.length ≤ 12) :
    ∃ pin, generateIbm3624Pin c pvk table offs pan off len pad = .ok pin ∧ pinOk pin = true ∧
      generateIbm3624Offset c pvk table pin pan off len pad = .ok offs := by
  obtain ⟨pin, _, hp, _, hl, hn, _, _, hinv, _⟩ := ibm_lengths_and_inverses c hc pvk table offs pan off len pad h
  have ⟨_, _, _, hd4, _⟩ := h
  exact ⟨pin, hp, (pinOk_iff pin).mpr ⟨hl ▸ hd4, hl ▸ h12, hn⟩, hinv⟩

theorem ibm_pin_is_pinOk (c : Ciphers) (hc : c.Lawful) (pvk : Bytes) (table offs pan : PyStr) (off len : Nat)
    (pad : PyStr) (h : Dom pvk table offs pan off len pad) (h12 : offs.length ≤ 12) :
    ∃ pin, generateIbm3624Pin c pvk table offs pan off len pad = .ok pin ∧ pinOk pin = true := by
  obtain ⟨pin, hp, hok, _⟩ := ibm_pin_ok_inv c hc pvk table offs pan off len pad h h12
  exact ⟨pin, hp, hok⟩

/-- **issuer → PIN block (format 0) → verifier**: the offset is recovered from the decoded PIN -/
theorem ibm_pin_via_iso0 (c : Ciphers) (hc : c.Lawful) (pvk : Bytes) (table offs pan : PyStr) (off len : Nat)
    (pad : PyStr) (h : Dom pvk table offs pan off len pad) (h12 : offs.length ≤ 12) (blockPan : PyStr)
    (hpan : panOk13 blockPan = true) :
    ∃ pin b, generateIbm3624Pin c pvk table offs pan off len pad = .ok pin ∧
      encodePinblockIso0 pin blockPan = .ok b ∧ decodePinblockIso0 b blockPan = .ok pin ∧
      generateIbm3624Offset c pvk table pin pan off len pad = .ok offs := by
  obtain ⟨pin, hp, hok, hinv⟩ := ibm_pin_ok_inv c hc pvk table offs pan off len pad h h12
  obtain ⟨b, he, hd⟩ := iso0_roundtrip pin blockPan hok hpan
  exact ⟨pin, b, hp, he, hd, hinv⟩

/-- the same through a format 2 block (no PAN) -/
theorem ibm_pin_via_iso2 (c : Ciphers) (hc : c.Lawful) (pvk : Bytes) (table offs pan : PyStr) (off len : Nat)
    (pad : PyStr) (h : Dom pvk table offs pan off len pad) (h12 : offs.length ≤ 12) :
    ∃ pin b, generateIbm3624Pin c pvk table offs pan off len pad = .ok pin ∧
      encodePinblockIso2 pin = .ok b ∧ decodePinblockIso2 b = .ok pin ∧
      generateIbm3624Offset c pvk table pin pan off len pad = .ok offs := by
  obtain ⟨pin, hp, hok, hinv⟩ := ibm_pin_ok_inv c hc pvk table offs pan off len pad h h12
  obtain ⟨b, he, hd⟩ := iso2_roundtrip pin hok
  exact ⟨pin, b, hp, he, hd, hinv⟩

/-- **issuer: derived PIN → Visa PVV**: a PIN derived from a four-digit offset is inside `generate_visa_pvv`'s domain
and yields a four-digit decimal PVV -/
theorem ibm_pin_into_pvv (c : Ciphers) (hc : c.Lawful) (pvk : Bytes) (table offs pan : PyStr) (off len : Nat)
    (pad : PyStr) (h : Dom pvk table offs pan off len pad) (h4 : offs.length = 4)
    (pvk2 : Bytes) (pvki pan2 : PyStr) (hk2 : pvk2.length = 8 ∨ pvk2.length = 16 ∨ pvk2.length = 24)
    (hi : pvki.length = 1) (hin : asciiNumeric pvki = true) (hp2 : 12 ≤ pan2.length) (hpn2 : asciiNumeric pan2 = true) :
    ∃ pin v, generateIbm3624Pin c pvk table offs pan off len pad = .ok pin ∧
      generateVisaPvv c pvk2 pvki pin pan2 = .ok v ∧ v.length = 4 ∧ asciiNumeric v = true := by
  obtain ⟨pin, _, hp, _, hl, hn, _, _, _, _⟩ := ibm_lengths_and_inverses c hc pvk table offs pan off len pad h
  obtain ⟨v, hv, hvl, hvn⟩ := Psec.Props.C10.pvv_four_digits c hc pvk2 pvki pin pan2
    ⟨hk2, hi, hin, by rw [hl, h4], hn, hp2, hpn2⟩
  exact ⟨pin, v, hp, hv, hvl, hvn⟩

end Psec.Props.Pipeline
