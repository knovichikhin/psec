import PsecModel.Lemmas.Modes
import PsecModel.Lemmas.RefLawful
/-!
# C19 — TDES/AES ECB and CBC wrappers are exact, length-preserving inverses

For every cipher parameter satisfying the block-cipher laws (`c.Lawful`), every valid key and IV and
every data of a positive whole number of blocks. The meaning of the library calls is the model in
`Cipher/Iface.lean` (per-block map; textbook chaining), validated by the correspondence check.

The wrappers' equations, acceptance, the inverses and `generate_kcv` are in `Lemmas/Modes.lean` (same namespace), which the other
properties build on.
-/
namespace Psec.Props.C19

/-- `h1`–`h4` have the form of one cipher's four equations in `Lemmas/Modes.lean`: data condition `D`, key check `k`, IV
condition `I`. -/
theorem wrapped_reject {α} {D I : Prop} [Decidable D] [Decidable I] {k : Bool} {e1 e2 c1 c2 : R α} {x1 x2 y1 y2 : α}
    (h1 : e1 = if D ∧ k = true then .ok x1 else .error .value) (h2 : e2 = if D ∧ k = true then .ok x2 else .error .value)
    (h3 : c1 = if D ∧ k = true ∧ I then .ok y1 else .error .value)
    (h4 : c2 = if D ∧ k = true ∧ I then .ok y2 else .error .value) (h : ¬ D ∨ k = false ∨ ¬ I) :
    (¬ D ∨ k = false → e1 = .error .value ∧ e2 = .error .value) ∧ c1 = .error .value ∧ c2 = .error .value :=
  have hk : k = false → ¬ k = true := fun hf ht => by rw [hf] at ht; cases ht
  have hcbc : ¬ (D ∧ k = true ∧ I) := fun ⟨hd, ht, hi⟩ => h.elim (· hd) (·.elim (hk · ht) (· hi))
  ⟨fun h' => have hecb : ¬ (D ∧ k = true) := fun ⟨hd, ht⟩ => h'.elim (· hd) (hk · ht)
    ⟨h1.trans (if_neg hecb), h2.trans (if_neg hecb)⟩, h3.trans (if_neg hcbc), h4.trans (if_neg hcbc)⟩

/-- empty or non-block-multiple data, a wrong key size or a wrong IV size is `ValueError`, for all four TDES wrappers -/
theorem tdes_reject (c : Ciphers) (key iv data : Bytes)
    (h : ¬ DataOk 8 data ∨ tdesKeyOk key = false ∨ iv.length ≠ 8) :
    (¬ DataOk 8 data ∨ tdesKeyOk key = false →
      Des.encryptTdesEcb c key data = .error .value ∧ Des.decryptTdesEcb c key data = .error .value) ∧
    Des.encryptTdesCbc c key iv data = .error .value ∧ Des.decryptTdesCbc c key iv data = .error .value :=
  wrapped_reject (tdes_ecb_enc_eq c key data) (tdes_ecb_dec_eq c key data) (tdes_cbc_enc_eq c key iv data)
    (tdes_cbc_dec_eq c key iv data) h

theorem aes_reject (c : Ciphers) (key iv data : Bytes)
    (h : ¬ DataOk 16 data ∨ aesKeyOk key = false ∨ iv.length ≠ 16) :
    (¬ DataOk 16 data ∨ aesKeyOk key = false →
      Aes.encryptAesEcb c key data = .error .value ∧ Aes.decryptAesEcb c key data = .error .value) ∧
    Aes.encryptAesCbc c key iv data = .error .value ∧ Aes.decryptAesCbc c key iv data = .error .value :=
  wrapped_reject (aes_ecb_enc_eq c key data) (aes_ecb_dec_eq c key data) (aes_cbc_enc_eq c key iv data)
    (aes_cbc_dec_eq c key iv data) h

theorem DataOk.cons {bs : Nat} {b rest : Bytes} (hb : b.length = bs) (hr : DataOk bs rest) :
    DataOk bs (b ++ rest) ∧ (b ++ rest).length / bs = rest.length / bs + 1 := by
  have hbs : 0 < bs := Nat.pos_of_ne_zero fun h => by rw [DataOk, h, Nat.mod_zero] at hr; omega
  rw [DataOk, List.length_append, hb, Nat.add_comm, Nat.add_mod_right, Nat.add_div_right _ hbs]
  exact ⟨⟨by omega, hr.2⟩, rfl⟩

/-- ECB equals independent per-block encryption -/
theorem tdes_ecb_blockwise (c : Ciphers) (key b rest : Bytes) (hk : tdesKeyOk key = true) (hb : b.length = 8)
    (hr : DataOk 8 rest) :
    Des.encryptTdesEcb c key (b ++ rest) = .ok (c.tdesE key b ++ ecbUpdate (c.tdesE key) 8 (rest.length / 8) rest) := by
  obtain ⟨hd, hn⟩ := DataOk.cons hb hr
  rw [tdes_ecb_enc_eq, if_pos ⟨hd, hk⟩, hn, ecb_blockwise _ _ _ _ _ hb]

/-- CBC equals the textbook chaining `c₁ = E(p₁ ⊕ iv)`, `cᵢ = E(pᵢ ⊕ cᵢ₋₁)` -/
theorem tdes_cbc_textbook (c : Ciphers) (key iv p rest : Bytes) (hk : tdesKeyOk key = true) (hiv : iv.length = 8)
    (hp : p.length = 8) (hr : DataOk 8 rest) :
    Des.encryptTdesCbc c key iv (p ++ rest) =
      .ok (c.tdesE key (xorBytes p iv) ++ (cbcEncUpdate (c.tdesE key) 8 (rest.length / 8) (c.tdesE key (xorBytes p iv)) rest).1) := by
  obtain ⟨hd, hn⟩ := DataOk.cons hp hr
  rw [tdes_cbc_enc_ok c key iv _ hk hiv hd, hn, cbc_textbook _ _ _ _ _ _ hp]

theorem aes_ecb_blockwise (c : Ciphers) (key b rest : Bytes) (hk : aesKeyOk key = true) (hb : b.length = 16)
    (hr : DataOk 16 rest) :
    Aes.encryptAesEcb c key (b ++ rest) = .ok (c.aesE key b ++ ecbUpdate (c.aesE key) 16 (rest.length / 16) rest) := by
  obtain ⟨hd, hn⟩ := DataOk.cons hb hr
  rw [aes_ecb_enc_eq, if_pos ⟨hd, hk⟩, hn, ecb_blockwise _ _ _ _ _ hb]

theorem aes_cbc_textbook (c : Ciphers) (key iv p rest : Bytes) (hk : aesKeyOk key = true) (hiv : iv.length = 16)
    (hp : p.length = 16) (hr : DataOk 16 rest) :
    Aes.encryptAesCbc c key iv (p ++ rest) =
      .ok (c.aesE key (xorBytes p iv) ++ (cbcEncUpdate (c.aesE key) 16 (rest.length / 16) (c.aesE key (xorBytes p iv)) rest).1) := by
  obtain ⟨hd, hn⟩ := DataOk.cons hp hr
  rw [aes_cbc_enc_ok c key iv _ hk hiv hd, hn, cbc_textbook _ _ _ _ _ _ hp]

example : (⟨fun _ b => b, fun _ b => b, fun _ b => b, fun _ b => b⟩ : Ciphers).Lawful :=
  ⟨fun _ _ _ _ => rfl, fun _ _ _ _ => rfl, fun _ _ _ h => h, fun _ _ _ h => h,
   fun _ _ _ _ => rfl, fun _ _ _ _ => rfl, fun _ _ _ h => h, fun _ _ _ h => h⟩

/-- The hypothesis holds for the reference ciphers the driver executes the model with, so every theorem that takes
`hc : c.Lawful` holds unconditionally for the model as run in the correspondence check. That they are TDES and AES is tested, not
proved: on the published vectors (`Cipher/VectorsDes.lean`, `Cipher/VectorsAes.lean`, built by `PsecModel.Tests`) and against the
`cryptography` package on every run. -/
theorem ref_lawful : refCiphers.Lawful := refCiphers_lawful

theorem ref_tdes_cbc_dec_enc (key iv data : Bytes) (hk : tdesKeyOk key = true) (hiv : iv.length = 8) (hd : DataOk 8 data) :
    ∃ ct, Des.encryptTdesCbc refCiphers key iv data = .ok ct ∧ ct.length = data.length ∧
      Des.decryptTdesCbc refCiphers key iv ct = .ok data :=
  tdes_cbc_dec_enc refCiphers ref_lawful key iv data hk hiv hd
theorem ref_aes_cbc_dec_enc (key iv data : Bytes) (hk : aesKeyOk key = true) (hiv : iv.length = 16) (hd : DataOk 16 data) :
    ∃ ct, Aes.encryptAesCbc refCiphers key iv data = .ok ct ∧ ct.length = data.length ∧
      Aes.decryptAesCbc refCiphers key iv ct = .ok data :=
  aes_cbc_dec_enc refCiphers ref_lawful key iv data hk hiv hd

end Psec.Props.C19
