import PsecModel.Props.C05
import PsecModel.Lemmas.Result
/-!
# C06 — PIN block decoders accept exactly the well-formed blocks and bind the PAN

For **every** 8-byte (formats 0, 2, 3) / 16-byte (format 4 PIN field) block: the decoder of the model returns
`pin` iff the (PAN-unmasked) block is well formed for the format in the sense of `Spec.wellFormed`, and then `pin`
is exactly the encoded digits; every other block is `ValueError`. The four decoders are one function `decodeClear` applied to
the block, unmasked for formats 0 and 3.
-/
namespace Psec.Props.C06
open Psec.Spec Psec.Pinblock Psec.Props.C05

/-- outcome of the specification's decoder as a model result -/
def specResult (ctrl : Nat) (fillOk : Nibs → Nat → Bool) (nibs : Nibs) : R PyStr :=
  match specDecode ctrl fillOk nibs with
  | some pin => .ok pin
  | none => .error .value

theorem wellFormed_pin (ctrl : Nat) (fs : Nibs → Nat → Bool) (nibs : Nibs) (pin : PyStr)
    (hl : 14 ≤ (nibs.drop 2).length) (h : wellFormed ctrl fs nibs pin = true) :
    4 ≤ pin.length ∧ pin.length ≤ 12 ∧ asciiNumeric pin = true :=
  (pinOk_iff pin).mp ((wellFormed_iff ctrl fs nibs pin hl).mp h).1

theorem specDecode_iff (ctrl : Nat) (fs : Nibs → Nat → Bool) (nibs : Nibs) (pin : PyStr) :
    specDecode ctrl fs nibs = some pin ↔ wellFormed ctrl fs nibs pin = true := by
  simp only [specDecode]
  constructor
  · intro h
    split at h
    · cases h; assumption
    · cases h
  · intro h
    have hp : digitChars ((nibs.drop 2).take (nibs.getD 1 0)) = pin := by
      simp only [wellFormed, Bool.and_eq_true, beq_iff_eq] at h
      exact h.1.1.2
    rw [hp, if_pos h]

theorem specResult_ok_iff (ctrl : Nat) (fs : Nibs → Nat → Bool) (nibs : Nibs) (pin : PyStr) :
    specResult ctrl fs nibs = .ok pin ↔ wellFormed ctrl fs nibs pin = true := by
  rw [← specDecode_iff]
  unfold specResult
  cases specDecode ctrl fs nibs <;> simp

theorem specResult_onlyValue (ctrl : Nat) (fs : Nibs → Nat → Bool) (nibs : Nibs) : OnlyErr (· = .value) (specResult ctrl fs nibs) := by
  unfold specResult
  cases specDecode ctrl fs nibs
  · exact .error rfl
  · exact .ok _

/-- the model's fill predicate on characters agrees with the specification's on nibbles -/
def FillAgree (fm : PyStr → Nat → Bool) (fs : Nibs → Nat → Bool) : Prop :=
  ∀ (rest : Nibs) (l : Nat), fm (rest.map hexDigitU) l = fs rest l

theorem fillF_agree : FillAgree fillF fillAllF :=
  fun rest l => map_hexDigitU_beq_replicate rest (14 - l) 15

theorem fillA16_agree : FillAgree Pinblock.fillA16 Spec.fillA16 := fun rest l => by
  unfold Pinblock.fillA16 Spec.fillA16
  rw [← List.map_take]
  exact map_hexDigitU_beq_replicate _ (14 - l) 10

theorem fillAF_agree : FillAgree fillAF fillAtoF := fun rest l => by
  unfold fillAF fillAtoF
  rw [List.all_map]
  congr 1
  funext n
  rw [Bool.eq_iff_iff]
  simp only [Function.comp, hexDigitU]
  split <;> simp only [Bool.and_eq_true, decide_eq_true_eq] <;> omega

/-- Once the length character is read back (`hexVal_hexDigitU`), each of `decodeBody`'s four guards is the negation of one
conjunct of `wellFormed` — control value (`hexDigitU` is injective), length in 4..12, fill (`FillAgree`), decimal digits
(`numeric_map_hexDigitU`) — and the PIN characters are `digitChars` of the digit nibbles (`digitChars_eq_map`). -/
theorem decodeBody_eq_spec (ctrl : Nat) (fm : PyStr → Nat → Bool) (fs : Nibs → Nat → Bool)
    (hf : FillAgree fm fs) (nibs : Nibs) (hl : 2 ≤ nibs.length) (hn : ∀ x ∈ nibs, x < 16) :
    decodeBody (hexDigitU ctrl) fm (nibs.map hexDigitU) = specResult ctrl fs nibs := by
  obtain ⟨n0, n1, rest, rfl⟩ : ∃ n0 n1 rest, nibs = n0 :: n1 :: rest := by
    match nibs, hl with
    | a :: b :: r, _ => exact ⟨a, b, r, rfl⟩
  have h1 : n1 < 16 := hn n1 (by simp)
  unfold decodeBody specResult specDecode wellFormed
  simp only [List.map_cons, List.headD_cons, List.getD_cons_succ, List.getD_cons_zero, hexVal_hexDigitU n1 h1,
    Option.getD_some, List.drop_succ_cons, List.drop_zero, beq_self_eq_true, Bool.and_true]
  by_cases hh : n0 = ctrl
  · subst hh
    simp only [ne_eq, not_true_eq_false, if_false, beq_self_eq_true, Bool.true_and]
    by_cases hrange : n1 < 4 ∨ n1 > 12
    · have : (decide (4 ≤ n1) && decide (n1 ≤ 12)) = false := by
        rcases hrange with h | h <;> simp <;> omega
      simp [hrange, this]
    · have hr2 : 4 ≤ n1 ∧ n1 ≤ 12 := by omega
      simp only [hrange, if_false, hr2.1, hr2.2, decide_true, Bool.true_and]
      have hdrop2 : (n0 :: n1 :: rest).drop (2 + n1) = rest.drop n1 := by
        rw [Nat.add_comm]; rfl
      have htake : List.drop 2 (List.take (n1 + 2) (hexDigitU n0 :: hexDigitU n1 :: List.map hexDigitU rest)) =
          List.map hexDigitU (List.take n1 rest) := by
        show List.take n1 (List.map hexDigitU rest) = _
        rw [List.map_take]
      rw [← List.map_drop, hf (rest.drop n1) n1, htake, numeric_map_hexDigitU, hdrop2]
      by_cases hfill : fs (rest.drop n1) n1 = true
      · simp only [hfill, not_true_eq_false, if_false, Bool.and_true]
        by_cases hnum : (rest.take n1).all (· < 10) = true
        · simp [hnum, digitChars_eq_map _ hnum]
        · simp [hnum]
      · simp [hfill]
  · have hne : hexDigitU n0 ≠ hexDigitU ctrl := fun he => hh (hexDigitU_injective he)
    have hb : (n0 == ctrl) = false := by simp [hh]
    simp [hne, hb]

/-- what every decoder does with the (unmasked, deciphered) block: size check, then the specification's decoder on the nibbles -/
def decodeClear (size ctrl : Nat) (fs : Nibs → Nat → Bool) (b : Bytes) : R PyStr :=
  if b.length = size then specResult ctrl fs (bytesToNibs b) else .error .value

theorem decodeBody_eq_clear (size ctrl : Nat) (hs : 0 < size) {fm : PyStr → Nat → Bool} {fs : Nibs → Nat → Bool}
    (hf : FillAgree fm fs) (b : Bytes) :
    (if b.length ≠ size then .error .value else decodeBody (hexDigitU ctrl) fm (toHexU b)) = decodeClear size ctrl fs b := by
  unfold decodeClear
  by_cases h : b.length = size
  · rw [if_neg (not_not_intro h), if_pos h]
    rw [toHexU_eq]
    exact decodeBody_eq_spec ctrl fm fs hf _ (by rw [bytesToNibs_length]; omega) (bytesToNibs_lt b)
  · rw [if_pos h, if_neg h]

theorem decodeIso2_eq (b : Bytes) : decodePinblockIso2 b = decodeClear 8 2 fillAllF b :=
  decodeBody_eq_clear 8 2 (by decide) fillF_agree b

theorem decodeIso4_eq (b : Bytes) : decodePinFieldIso4 b = decodeClear 16 4 Spec.fillA16 b :=
  decodeBody_eq_clear 16 4 (by decide) fillA16_agree b

/-- formats 0 and 3: the same decoder after unmasking with the PAN block -/
theorem decodeMasked_eq (ctrl : Nat) {fm : PyStr → Nat → Bool} {fs : Nibs → Nat → Bool}
    (hf : FillAgree fm fs) (b : Bytes) (pan : PyStr) :
    (if ¬ panOk13 pan then .error .value
      else if b.length ≠ 8 then .error .value
      else match panBlock pan with
        | none => .error .value
        | some pb => decodeBody (hexDigitU ctrl) fm (toHexU (Tools.xor b pb))) =
    if panOk13 pan = true then decodeClear 8 ctrl fs (xorBytes b (nibsToBytes (panNibs pan))) else .error .value := by
  by_cases hp : panOk13 pan = true
  · simp only [hp, not_true_eq_false, if_false, if_true, panBlock_eq_spec pan hp, Tools.xor_eq]
    rw [← decodeBody_eq_clear 8 ctrl (by decide) hf, xorBytes_length]
  · simp [hp]

theorem decodeIso0_eq (b : Bytes) (pan : PyStr) : decodePinblockIso0 b pan =
    if panOk13 pan = true then decodeClear 8 0 fillAllF (xorBytes b (nibsToBytes (panNibs pan))) else .error .value :=
  decodeMasked_eq 0 fillF_agree b pan

theorem decodeIso3_eq (b : Bytes) (pan : PyStr) : decodePinblockIso3 b pan =
    if panOk13 pan = true then decodeClear 8 3 fillAtoF (xorBytes b (nibsToBytes (panNibs pan))) else .error .value :=
  decodeMasked_eq 3 fillAF_agree b pan

theorem decodeClear_ok_iff (size ctrl : Nat) (fs : Nibs → Nat → Bool) (b : Bytes) (pin : PyStr) :
    decodeClear size ctrl fs b = .ok pin ↔ b.length = size ∧ wellFormed ctrl fs (bytesToNibs b) pin = true := by
  unfold decodeClear
  split <;> simp [specResult_ok_iff, *]

theorem decodeClear_onlyValue (size ctrl : Nat) (fs : Nibs → Nat → Bool) (b : Bytes) :
    OnlyErr (· = .value) (decodeClear size ctrl fs b) :=
  .ite (fun _ => specResult_onlyValue ctrl fs _) fun _ => .error rfl

theorem decodeClear_pinOk {size ctrl : Nat} {fs : Nibs → Nat → Bool} {b : Bytes} {pin : PyStr} (hs : 8 ≤ size)
    (h : decodeClear size ctrl fs b = .ok pin) : pinOk pin = true := by
  obtain ⟨hl, hw⟩ := (decodeClear_ok_iff size ctrl fs b pin).mp h
  exact ((wellFormed_iff ctrl fs _ pin (by simp [bytesToNibs_length]; omega)).mp hw).1

theorem decode_iso2_iff (b : Bytes) (h : b.length = 8) (pin : PyStr) :
    decodePinblockIso2 b = .ok pin ↔ wellFormed 2 fillAllF (bytesToNibs b) pin = true := by
  rw [decodeIso2_eq, decodeClear_ok_iff]
  exact and_iff_right h

theorem decode_iso0_iff (b : Bytes) (pan : PyStr) (h : b.length = 8) (hp : panOk13 pan = true) (pin : PyStr) :
    decodePinblockIso0 b pan = .ok pin ↔
      wellFormed 0 fillAllF (bytesToNibs (xorBytes b (nibsToBytes (panNibs pan)))) pin = true := by
  rw [decodeIso0_eq, if_pos hp, decodeClear_ok_iff, xorBytes_length]
  exact and_iff_right h

theorem decode_iso3_iff (b : Bytes) (pan : PyStr) (h : b.length = 8) (hp : panOk13 pan = true) (pin : PyStr) :
    decodePinblockIso3 b pan = .ok pin ↔
      wellFormed 3 fillAtoF (bytesToNibs (xorBytes b (nibsToBytes (panNibs pan)))) pin = true := by
  rw [decodeIso3_eq, if_pos hp, decodeClear_ok_iff, xorBytes_length]
  exact and_iff_right h

theorem decode_iso4_field_iff (b : Bytes) (h : b.length = 16) (pin : PyStr) :
    decodePinFieldIso4 b = .ok pin ↔ wellFormed 4 Spec.fillA16 (bytesToNibs b) pin = true := by
  rw [decodeIso4_eq, decodeClear_ok_iff]
  exact and_iff_right h

theorem decode_wrong_size (b : Bytes) (pan : PyStr) :
    (b.length ≠ 8 → decodePinblockIso2 b = .error .value) ∧
    (b.length ≠ 8 ∨ panOk13 pan = false → decodePinblockIso0 b pan = .error .value ∧ decodePinblockIso3 b pan = .error .value) ∧
    (b.length ≠ 16 → decodePinFieldIso4 b = .error .value) := by
  rw [decodeIso2_eq, decodeIso0_eq, decodeIso3_eq, decodeIso4_eq]
  unfold decodeClear
  refine ⟨fun h => if_neg h, fun h => ?_, fun h => if_neg h⟩
  rcases h with h | h
  · simp [h]
  · simp [h]

theorem decode_outcomes (b : Bytes) (pan : PyStr) :
    ((∃ p, decodePinblockIso2 b = .ok p) ∨ decodePinblockIso2 b = .error .value) ∧
    ((∃ p, decodePinblockIso0 b pan = .ok p) ∨ decodePinblockIso0 b pan = .error .value) ∧
    ((∃ p, decodePinblockIso3 b pan = .ok p) ∨ decodePinblockIso3 b pan = .error .value) ∧
    ((∃ p, decodePinFieldIso4 b = .ok p) ∨ decodePinFieldIso4 b = .error .value) := by
  rw [decodeIso2_eq, decodeIso0_eq, decodeIso3_eq, decodeIso4_eq]
  have hm : ∀ ctrl fs, OnlyErr (· = .value) (if panOk13 pan = true then
      decodeClear 8 ctrl fs (xorBytes b (nibsToBytes (panNibs pan))) else .error .value) :=
    fun ctrl fs => .ite (fun _ => decodeClear_onlyValue _ _ _ _) fun _ => .error rfl
  exact ⟨onlyValue_iff.mp (decodeClear_onlyValue _ _ _ _), onlyValue_iff.mp (hm _ _), onlyValue_iff.mp (hm _ _),
    onlyValue_iff.mp (decodeClear_onlyValue _ _ _ _)⟩

/-- encode-then-decode at the level of clear blocks: the standard's block of `pin` with an acceptable fill decodes to `pin` -/
theorem decodeClear_plain (size ctrl : Nat) (fs : Nibs → Nat → Bool) (pin : PyStr) (fill : Nibs) (hc : ctrl < 16)
    (hp : pinOk pin = true) (hf : ∀ x ∈ fill, x < 16) (hl : 2 + pin.length + fill.length = 2 * size)
    (hfs : fs fill pin.length = true) : decodeClear size ctrl fs (nibsToBytes (plain ctrl pin fill)) = .ok pin := by
  have hok := plain_ok ctrl pin fill hc hp hf (by omega)
  rw [decodeClear_ok_iff, bytesToNibs_nibsToBytes _ hok, wellFormed_plain ctrl fs pin fill hp, nibsToBytes_length,
    plain_length]
  exact ⟨by omega, hfs⟩

/-- a block accepted by one format's decoder is rejected by the others: the control nibbles differ -/
theorem cross_format (ctrl1 ctrl2 : Nat) (fs1 fs2 : Nibs → Nat → Bool) (nibs : Nibs) (pin1 : PyStr)
    (hne : ctrl1 ≠ ctrl2) (h : wellFormed ctrl1 fs1 nibs pin1 = true) :
    specResult ctrl2 fs2 nibs = .error .value := by
  rcases onlyValue_iff.mp (specResult_onlyValue ctrl2 fs2 nibs) with ⟨p, hp⟩ | he
  · have := wellFormed_ctrl _ _ _ _ ((specResult_ok_iff _ _ _ _).mp hp)
    have h1 := wellFormed_ctrl _ _ _ _ h
    omega
  · exact he

/-- formats 0 and 3 read the same unmasked block, so a block accepted by one is rejected by the other -/
theorem iso0_iso3_exclusive (b : Bytes) (pan : PyStr) (h : b.length = 8) (hp : panOk13 pan = true) (pin : PyStr) :
    (decodePinblockIso0 b pan = .ok pin → decodePinblockIso3 b pan = .error .value) ∧
    (decodePinblockIso3 b pan = .ok pin → decodePinblockIso0 b pan = .error .value) := by
  rw [decodeIso0_eq, decodeIso3_eq, if_pos hp, if_pos hp]
  unfold decodeClear
  rw [xorBytes_length, if_pos h, if_pos h, specResult_ok_iff, specResult_ok_iff]
  exact ⟨cross_format 0 3 _ _ _ pin (by decide), cross_format 3 0 _ _ _ pin (by decide)⟩

theorem wellFormed_iso0_unique (nibs : Nibs) (pin : PyStr) (hl : nibs.length = 16)
    (h : wellFormed 0 fillAllF nibs pin = true) : nibs = iso0Plain pin := by
  obtain ⟨_, fill, rfl, hf⟩ := (wellFormed_iff 0 fillAllF nibs pin (by rw [List.length_drop, hl]; decide)).mp h
  rw [fillAllF, beq_iff_eq] at hf
  rw [hf]
  rfl

/-- **Format 0 binds the PAN**: decoding a genuine block with a PAN whose bound digits (the account-number field)
differ never returns the original PIN -/
theorem iso0_pan_binding (pin pan pan' : PyStr) (hpin : pinOk pin = true) (hpan : panOk13 pan = true)
    (hpan' : panOk13 pan' = true) (hne : panNibs pan ≠ panNibs pan') :
    decodePinblockIso0 (Spec.iso0 pin pan) pan' ≠ .ok pin := by
  intro hdec
  have hfill : ∀ x ∈ List.replicate (14 - pin.length) 15, x < 16 := by simp
  obtain ⟨hok, hA⟩ := plain_block 0 pin _ (by decide) hpin hfill (by simp)
  obtain ⟨hpok, hpl⟩ := panNibs_ok pan hpan
  obtain ⟨hpok', hpl'⟩ := panNibs_ok pan' hpan'
  have hP : (nibsToBytes (panNibs pan)).length = 8 := by rw [nibsToBytes_length, hpl]
  have hP' : (nibsToBytes (panNibs pan')).length = 8 := by rw [nibsToBytes_length, hpl']
  rw [decodeIso0_eq, if_pos hpan', decodeClear_ok_iff, Spec.iso0, Spec.iso0Plain,
    masked_bytes 0 pin pan _ (by decide) hpin hpan hfill (by simp)] at hdec
  -- the unmasked block is well formed for `pin` with fill `F…F`, so it is the clear block itself: the two masks agree
  have hbytes := congrArg nibsToBytes (wellFormed_iso0_unique _ pin (by rw [bytesToNibs_length, hdec.1]) hdec.2)
  rw [nibsToBytes_bytesToNibs] at hbytes
  have := xorBytes_mask_unique _ _ _ (by rw [hA, hP]) (by rw [hA, hP']) hbytes
  exact hne (by rw [← bytesToNibs_nibsToBytes _ hpok, ← bytesToNibs_nibsToBytes _ hpok', this])

/-- the PIN field obtained by deciphering a format-4 block with PAN field `F'` -/
def decipherField (c : Ciphers) (key blk F' : Bytes) : Bytes := c.aesD key (xorBytes (c.aesD key blk) F')

theorem decipherIso4_bind (c : Ciphers) (key blk : Bytes) (pan : PyStr) :
    decipherPinblockIso4 c key blk pan = Aes.decryptAesEcb c key blk >>= fun b => encodePanFieldIso4 pan >>= fun F =>
      Aes.decryptAesEcb c key (Tools.xor b F) >>= decodePinFieldIso4 := by
  unfold decipherPinblockIso4
  cases Aes.decryptAesEcb c key blk with
  | error e => rfl
  | ok b =>
    cases encodePanFieldIso4 pan with
    | error e => rfl
    | ok F => simp only [ok_bind]; cases Aes.decryptAesEcb c key (Tools.xor b F) <;> rfl

theorem decipherIso4_eq (c : Ciphers) (hc : c.Lawful) (key blk : Bytes) (pan : PyStr) (hb : blk.length = 16) :
    decipherPinblockIso4 c key blk pan =
      if aesKeyOk key = true ∧ 1 ≤ pan.length ∧ pan.length ≤ 19 ∧ asciiNumeric pan = true then
        decodePinFieldIso4 (decipherField c key blk (Spec.iso4PanField pan)) else .error .value := by
  unfold decipherPinblockIso4
  rw [encodePanFieldIso4_eq pan]
  by_cases hk : aesKeyOk key = true
  · rw [Props.C19.aes_ecb_dec_block c key blk hk hb]
    by_cases ha : 1 ≤ pan.length ∧ pan.length ≤ 19 ∧ asciiNumeric pan = true
    · simp only [hk, ha, and_self, if_true, Tools.xor_eq]
      rw [Props.C19.aes_ecb_dec_block c key _ hk (by rw [xorBytes_length, hc.aes_dec_len key blk hk hb])]
      rfl
    · simp [hk, ha]
  · rw [Props.C19.aes_ecb_dec_eq, if_neg fun h => hk h.2]
    simp [hk]

theorem iso4_decipher_other_pan (c : Ciphers) (hc : c.Lawful) (key : Bytes) (pin pan pan' : PyStr) (rnd : Bytes)
    (hk : aesKeyOk key = true) (hpin : pinOk pin = true) (hr : rnd.length = 8)
    (h1 : 1 ≤ pan.length) (h19 : pan.length ≤ 19) (hn : asciiNumeric pan = true)
    (h1' : 1 ≤ pan'.length) (h19' : pan'.length ≤ 19) (hn' : asciiNumeric pan' = true) :
    ∃ b, encipherPinblockIso4 c key pin pan rnd = .ok b ∧
      decipherPinblockIso4 c key b pan' =
        decodePinFieldIso4 (c.aesD key (xorBytes (xorBytes (c.aesE key (iso4PinField pin rnd)) (iso4PanField pan)) (iso4PanField pan'))) := by
  refine ⟨_, Props.C05.iso4_encipher_eq c hc key pin pan rnd hk hpin hr h1 h19 hn, ?_⟩
  have hx : (xorBytes (c.aesE key (iso4PinField pin rnd)) (iso4PanField pan)).length = 16 := by
    rw [xorBytes_length, hc.aes_enc_len key _ hk (Props.C05.iso4PinField_length pin rnd hpin hr)]
  rw [iso4Encipher, decipherIso4_eq c hc key _ pan' (hc.aes_enc_len key _ hk hx), if_pos ⟨hk, h1', h19', hn'⟩, decipherField,
    hc.aes_dec_enc key _ hk hx]

/-- **Format 4 PAN binding (partial)**: if the PAN fields differ, the deciphered PIN field differs from the enciphered one.
That the different field does not happen to *decode* to the same PIN is a pseudo-randomness property of AES and is not claimed. -/
theorem iso4_pan_binding_partial (c : Ciphers) (hc : c.Lawful) (key pf F F' : Bytes) (hk : aesKeyOk key = true)
    (hpf : pf.length = 16) (hF : F.length = 16) (hF' : F'.length = 16) (hne : F ≠ F') :
    decipherField c key (c.aesE key (xorBytes (c.aesE key pf) F)) F' ≠ pf := by
  intro h
  unfold decipherField at h
  have he : (c.aesE key pf).length = 16 := hc.aes_enc_len key pf hk hpf
  have hx : (xorBytes (c.aesE key pf) F).length = 16 := by rw [xorBytes_length, he]
  rw [hc.aes_dec_enc key _ hk hx] at h
  have hy : (xorBytes (xorBytes (c.aesE key pf) F) F').length = 16 := by rw [xorBytes_length, hx]
  have h2 : c.aesE key (c.aesD key (xorBytes (xorBytes (c.aesE key pf) F) F')) = c.aesE key pf := by rw [h]
  rw [hc.aes_enc_dec key _ hk hy] at h2
  exact hne (xorBytes_mask_unique _ _ _ (by rw [he, hF]) (by rw [he, hF']) h2)

end Psec.Props.C06
