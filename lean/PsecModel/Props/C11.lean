import PsecModel.Lemmas.Card
import PsecModel.Lemmas.Modes
import PsecModel.Lemmas.Result
/-!
# C11 — IBM 3624 PIN and offset are standard and mutually inverse
-/
namespace Psec.Props.C11
open Psec.Spec Psec.Card

/-- documented input domain shared by `generate_ibm3624_pin` / `generate_ibm3624_offset`
(`digits` is the offset resp. the PIN; the window has `0 ≤ start`, `start + length ≤ len(PAN)`) -/
def Dom (pvk : Bytes) (table digits pan : PyStr) (off len : Nat) (pad : PyStr) : Prop :=
  (pvk.length = 8 ∨ pvk.length = 16 ∨ pvk.length = 24) ∧ table.length = 16 ∧ asciiNumeric table = true ∧
  4 ≤ digits.length ∧ digits.length ≤ 16 ∧ asciiNumeric digits = true ∧
  pan.length ≤ 19 ∧ asciiNumeric pan = true ∧ pad.length = 1 ∧ asciiHexchar pad = true ∧ off + len ≤ pan.length

instance (pvk : Bytes) (table digits pan : PyStr) (off len : Nat) (pad : PyStr) :
    Decidable (Dom pvk table digits pan off len pad) := by unfold Dom; infer_instance

/-- the validation data `window ‖ pad…` as the code builds it (a hex string through `bytes.fromhex`) and as nibbles -/
theorem fromHexWs_validationData (w : PyStr) (p : Nat) (hw : asciiNumeric w = true) (hl : w.length ≤ 16) (hp : isHexC p = true) :
    fromHexWs (upper (ljust 16 p w)) = some (nibsToBytes (digitsOf w ++ List.replicate (16 - w.length) (hexNib p))) := by
  have hs : upper (ljust 16 p w) = w ++ List.replicate (16 - w.length) (upperC p) := by
    rw [ljust, upper, List.map_append, List.map_replicate]
    exact congrArg (· ++ _) (upper_numeric w hw)
  have hh : asciiHexchar (w ++ List.replicate (16 - w.length) (upperC p)) = true := by
    rw [asciiHexchar_append, asciiNumeric_hexchar hw, asciiHexchar_replicate _ _ (isHexC_upperC p hp)]; rfl
  have he : (w ++ List.replicate (16 - w.length) (upperC p)).length % 2 = 0 := by simp; omega
  rw [hs, fromHexWs_of_hex _ hh, a2bHex_of_hex _ hh he, List.map_append, List.map_replicate, map_hexNib_eq_digitsOf _ hw,
    hexNib_upperC p hp]

theorem validationData_length (w : PyStr) (p : Nat) (hl : w.length ≤ 16) :
    (nibsToBytes (digitsOf w ++ List.replicate (16 - w.length) (hexNib p))).length = 8 := by
  rw [nibsToBytes_length, List.length_append, List.length_replicate, digitsOf_length]; omega

theorem translateTable_eq (table : PyStr) (out : Bytes) (hl : table.length = 16) (hn : asciiNumeric table = true) :
    translateTable table (toHexU out) = digitChars ((bytesToNibs out).map fun x => (digitsOf table).getD x 0) := by
  rw [translateTable, digitChars, toHexU_eq, List.map_map, List.map_map]
  refine List.map_congr_left fun x hx => ?_
  have hx16 := bytesToNibs_lt out x hx
  simp only [Function.comp, hexVal_hexDigitU x hx16]
  exact getD_eq_digitsOf table x _ hn (by omega)

theorem ibmIntermediate_eq (c : Ciphers) (pvk : Bytes) (table digits pan : PyStr) (off len : Nat) (pad : PyStr) :
    ibmIntermediate c pvk table digits pan off len pad =
      if Dom pvk table digits pan off len pad then
        .ok (digitChars (Spec.ibmNatural (c.tdesE pvk) table pan off len (pad.headD 48))) else .error .value := by
  unfold ibmIntermediate
  by_cases h : Dom pvk table digits pan off len pad
  · rw [if_pos h]
    obtain ⟨hk, htl, htn, hd4, hd16, hdn, hpl, hpn, hpad1, hpadh, hwin⟩ := h
    obtain ⟨p, rfl⟩ := len1 pad hpad1
    have hkF := (tdesKeyOk_iff pvk).mpr hk
    have hweq : (pan.take (len + off)).drop off = (pan.drop off).take len := by rw [List.drop_take, Nat.add_sub_cancel]
    have hwn : asciiNumeric (((pan.drop off).take len).take 16) = true :=
      asciiNumeric_take _ _ (asciiNumeric_take _ _ (asciiNumeric_drop _ _ hpn))
    have hwl : ((pan.drop off).take len).length = len := by rw [List.length_take, List.length_drop]; omega
    simp only [hk, htl, htn, hdn, hpn, hpadh, Nat.not_lt.mpr hd4, Nat.not_lt.mpr hd16, Nat.not_lt.mpr hpl, hweq, hwl,
      Nat.not_lt.mpr (show off ≤ pan.length by omega), List.length_singleton, ne_eq, not_true_eq_false, or_self, if_false,
      List.headD_cons]
    have hw16 : (((pan.drop off).take len).take 16).length ≤ 16 := by rw [List.length_take]; omega
    rw [fromHexWs_validationData _ p hwn hw16 (by simpa [asciiHexchar] using hpadh)]
    simp only [Props.C19.tdes_ecb_enc_block c pvk _ hkF (validationData_length _ p hw16), translateTable_eq table _ htl htn]
    simp only [Spec.ibmNatural, digitsOf, List.map_take, List.map_drop, List.length_take, List.length_drop, List.length_map]
  · rw [if_neg h]
    refine guard_value fun g1 => guard_value fun g2 => guard_value fun g3 => guard_value fun g4 => guard_value fun g5 =>
      guard_value fun g6 => absurd ?_ h
    simp only [not_or, Decidable.not_not, Nat.not_lt, List.length_drop, List.length_take] at g2 g3 g4 g5 g6
    exact ⟨Decidable.not_not.mp g1, g2.1, g2.2, g3.1, g3.2.1, g3.2.2, g4.1, g4.2, g5.1, g5.2, by omega⟩

/-- **the intermediate (natural) PIN**: the 16 decimalised characters are the standard's natural PIN digits -/
theorem intermediate_eq_spec (c : Ciphers) (hc : c.Lawful) (pvk : Bytes) (table digits pan : PyStr) (off len : Nat)
    (pad : PyStr) (h : Dom pvk table digits pan off len pad) :
    ibmIntermediate c pvk table digits pan off len pad =
      .ok (digitChars (Spec.ibmNatural (c.tdesE pvk) table pan off len (pad.headD 48))) ∧
    (Spec.ibmNatural (c.tdesE pvk) table pan off len (pad.headD 48)).length = 16 ∧
    ∀ x ∈ Spec.ibmNatural (c.tdesE pvk) table pan off len (pad.headD 48), x < 10 := by
  have ⟨hk, htl, htn, _⟩ := h
  refine ⟨by rw [ibmIntermediate_eq, if_pos h], ?_, fun x hx => ?_⟩
  · rw [Spec.ibmNatural, List.length_map, bytesToNibs_length, hc.tdes_enc_len pvk _ ((tdesKeyOk_iff pvk).mpr hk)]
    rw [nibsToBytes_length]; simp; omega
  · obtain ⟨v, hv, rfl⟩ := List.mem_map.mp hx
    exact digitsOf_getD_lt10 table v htn (by rw [htl]; exact bytesToNibs_lt _ v hv)

theorem addMod10_eq : ∀ a b : Nibs, addMod10 a b = List.zipWith (fun x y => (x + y) % 10) a b
  | [], _ => by simp [addMod10]
  | _ :: _, [] => by simp [addMod10]
  | x :: xs, y :: ys => by simp [addMod10, addMod10_eq xs ys]

theorem subMod10_eq : ∀ a b : Nibs, subMod10 a b = List.zipWith (fun x y => (x + 10 - y) % 10) a b
  | [], _ => by simp [subMod10]
  | _ :: _, [] => by simp [subMod10]
  | x :: xs, y :: ys => by simp [subMod10, subMod10_eq xs ys]

/-- the code's digit-wise `str(..)[-1:]` over two digit strings is the standard's digit-wise operation `g` -/
theorem zipDigits_eq (f : Nat → Nat → PyStr) (g : Nat → Nat → Nat) (hfg : ∀ a b, f a b = [48 + g (a - 48) (b - 48)]) :
    ∀ (s : PyStr) (nat : Nibs), zipDigits f s (digitChars nat) = digitChars (List.zipWith g (digitsOf s) nat)
  | [], _ => by simp [zipDigits, digitsOf, digitChars]
  | _ :: _, [] => by simp [zipDigits, digitsOf, digitChars]
  | a :: s, n :: ns => by
    have ih := zipDigits_eq f g hfg s ns
    simp only [digitChars, digitsOf, List.map_cons, zipDigits, List.zipWith_cons_cons] at ih ⊢
    rw [hfg, ih, Nat.add_sub_cancel, Nat.add_comm 48]
    rfl

theorem zipMod_props (g : Nat → Nat → Nat) (a b : Nibs) (h : a.length ≤ b.length) :
    (List.zipWith (fun x y => g x y % 10) a b).length = a.length ∧ ∀ x ∈ List.zipWith (fun x y => g x y % 10) a b, x < 10 := by
  refine ⟨by rw [List.length_zipWith]; omega, fun x hx => ?_⟩
  obtain ⟨i, hi, rfl⟩ := List.mem_iff_getElem.mp hx
  rw [List.getElem_zipWith]
  exact Nat.mod_lt _ (by decide)

theorem zipWith_inv (f g : Nat → Nat → Nat) (hfg : ∀ x y, x < 10 → y < 10 → g (f x y) y = x) :
    ∀ (o n : Nibs), o.length ≤ n.length → (∀ x ∈ o, x < 10) → (∀ x ∈ n, x < 10) → List.zipWith g (List.zipWith f o n) n = o
  | [], _, _, _, _ => by simp
  | _ :: _, [], h, _, _ => by simp at h
  | x :: xs, y :: ys, h, ho, hn => by
    simp only [List.zipWith_cons_cons, hfg x y (ho x (by simp)) (hn y (by simp)),
      zipWith_inv f g hfg xs ys (by simpa using h) (fun z hz => ho z (by simp [hz])) (fun z hz => hn z (by simp [hz]))]

/-- `offset(pin(o)) = o` -/
theorem sub_add_inv : ∀ (o n : Nibs), o.length ≤ n.length → (∀ x ∈ o, x < 10) → (∀ x ∈ n, x < 10) →
    subMod10 (addMod10 o n) n = o := by
  intro o n
  rw [addMod10_eq, subMod10_eq]
  exact zipWith_inv _ _ (fun x y hx hy => by omega) o n

/-- `pin(offset(p)) = p` -/
theorem add_sub_inv : ∀ (p n : Nibs), p.length ≤ n.length → (∀ x ∈ p, x < 10) → (∀ x ∈ n, x < 10) →
    addMod10 (subMod10 p n) n = p := by
  intro p n
  rw [addMod10_eq, subMod10_eq]
  exact zipWith_inv _ _ (fun x y hx hy => by omega) p n

theorem generateIbm3624Pin_eq (c : Ciphers) (pvk : Bytes) (table offset pan : PyStr) (off len : Nat) (pad : PyStr) :
    generateIbm3624Pin c pvk table offset pan off len pad =
      if Dom pvk table offset pan off len pad then
        .ok (Spec.ibmPin (c.tdesE pvk) table offset pan off len (pad.headD 48)) else .error .value := by
  rw [generateIbm3624Pin, ibmIntermediate_eq]
  by_cases h : Dom pvk table offset pan off len pad
  · simp only [if_pos h, Spec.ibmPin, addMod10_eq]
    rw [zipDigits_eq (fun o i => addDigit i o) (fun x y => (x + y) % 10) fun a b => by rw [addDigit_spec, Nat.add_comm (b - 48)]]
  · simp only [if_neg h]

theorem generateIbm3624Offset_eq (c : Ciphers) (pvk : Bytes) (table pin pan : PyStr) (off len : Nat) (pad : PyStr) :
    generateIbm3624Offset c pvk table pin pan off len pad =
      if Dom pvk table pin pan off len pad then
        .ok (Spec.ibmOffset (c.tdesE pvk) table pin pan off len (pad.headD 48)) else .error .value := by
  rw [generateIbm3624Offset, ibmIntermediate_eq]
  by_cases h : Dom pvk table pin pan off len pad
  · simp only [if_pos h, Spec.ibmOffset, subMod10_eq]
    rw [zipDigits_eq subDigit (fun x y => (x + 10 - y) % 10) fun a b => by rw [subDigit_spec, Nat.add_comm 10]]
  · simp only [if_neg h]

/-- **PIN = natural PIN + offset, digit-wise modulo 10** (the code's `str(a+b)[-1:]`) -/
theorem ibm_pin_eq_spec (c : Ciphers) (hc : c.Lawful) (pvk : Bytes) (table offset pan : PyStr) (off len : Nat) (pad : PyStr)
    (h : Dom pvk table offset pan off len pad) :
    generateIbm3624Pin c pvk table offset pan off len pad =
      .ok (Spec.ibmPin (c.tdesE pvk) table offset pan off len (pad.headD 48)) := by
  rw [generateIbm3624Pin_eq, if_pos h]

/-- **offset = PIN − natural PIN, digit-wise modulo 10** (the code's `str(10+p−n)[-1:]`) -/
theorem ibm_offset_eq_spec (c : Ciphers) (hc : c.Lawful) (pvk : Bytes) (table pin pan : PyStr) (off len : Nat) (pad : PyStr)
    (h : Dom pvk table pin pan off len pad) :
    generateIbm3624Offset c pvk table pin pan off len pad =
      .ok (Spec.ibmOffset (c.tdesE pvk) table pin pan off len (pad.headD 48)) := by
  rw [generateIbm3624Offset_eq, if_pos h]

theorem Dom.of_digits {pvk : Bytes} {table digits pan : PyStr} {off len : Nat} {pad : PyStr}
    (h : Dom pvk table digits pan off len pad) (digits' : PyStr) (hl : digits'.length = digits.length)
    (hn : asciiNumeric digits' = true) : Dom pvk table digits' pan off len pad := by
  obtain ⟨hk, htl, htn, hd4, hd16, _, rest⟩ := h
  exact ⟨hk, htl, htn, hl ▸ hd4, hl ▸ hd16, hn, rest⟩

/-- **outputs have exactly the length of the supplied offset / PIN and are decimal**, and the two functions are
**mutually inverse**: `offset(pin(o)) = o` and `pin(offset(p)) = p` -/
theorem ibm_lengths_and_inverses (c : Ciphers) (hc : c.Lawful) (pvk : Bytes) (table digits pan : PyStr) (off len : Nat)
    (pad : PyStr) (h : Dom pvk table digits pan off len pad) :
    ∃ pin offs,
      generateIbm3624Pin c pvk table digits pan off len pad = .ok pin ∧
      generateIbm3624Offset c pvk table digits pan off len pad = .ok offs ∧
      pin.length = digits.length ∧ asciiNumeric pin = true ∧ offs.length = digits.length ∧ asciiNumeric offs = true ∧
      generateIbm3624Offset c pvk table pin pan off len pad = .ok digits ∧
      generateIbm3624Pin c pvk table offs pan off len pad = .ok digits := by
  obtain ⟨_, hnl, hlt⟩ := intermediate_eq_spec c hc pvk table digits pan off len pad h
  have ⟨_, _, _, _, hd16, hdn, _⟩ := h
  have hdlt := digitsOf_lt10 digits hdn
  have hle : (digitsOf digits).length ≤ (Spec.ibmNatural (c.tdesE pvk) table pan off len (pad.headD 48)).length := by
    rw [hnl, digitsOf_length]; exact hd16
  obtain ⟨ha1, ha2⟩ := addMod10_eq _ _ ▸ zipMod_props (· + ·) _ _ hle
  obtain ⟨hs1, hs2⟩ := subMod10_eq _ _ ▸ zipMod_props (fun x y => x + 10 - y) _ _ hle
  have pl : (Spec.ibmPin (c.tdesE pvk) table digits pan off len (pad.headD 48)).length = digits.length := by
    rw [Spec.ibmPin, digitChars, List.length_map, ha1, digitsOf_length]
  have ol : (Spec.ibmOffset (c.tdesE pvk) table digits pan off len (pad.headD 48)).length = digits.length := by
    rw [Spec.ibmOffset, digitChars, List.length_map, hs1, digitsOf_length]
  have pn := digitChars_numeric _ ha2
  have on := digitChars_numeric _ hs2
  refine ⟨_, _, ibm_pin_eq_spec c hc _ _ _ _ _ _ _ h, ibm_offset_eq_spec c hc _ _ _ _ _ _ _ h, pl, pn, ol, on, ?_, ?_⟩
  · rw [ibm_offset_eq_spec c hc _ _ _ _ _ _ _ (h.of_digits _ pl pn), Spec.ibmOffset, Spec.ibmPin, digitsOf_digitChars,
      sub_add_inv _ _ hle hdlt hlt, digitChars_digitsOf _ hdn]
  · rw [ibm_pin_eq_spec c hc _ _ _ _ _ _ _ (h.of_digits _ ol on), Spec.ibmOffset, Spec.ibmPin, digitsOf_digitChars,
      add_sub_inv _ _ hle hdlt hlt, digitChars_digitsOf _ hdn]

/-- lower- and upper-case pad characters give identical results (the code upper-cases the validation data) -/
theorem ibm_pad_case (c : Ciphers) (pvk : Bytes) (table digits pan : PyStr) (off len : Nat) (p : Nat) (hp : isHexC p = true) :
    ibmIntermediate c pvk table digits pan off len [upperC p] = ibmIntermediate c pvk table digits pan off len [p] := by
  have hD : Dom pvk table digits pan off len [upperC p] ↔ Dom pvk table digits pan off len [p] := by
    simp [Dom, asciiHexchar, hp, isHexC_upperC p hp]
  simp only [ibmIntermediate_eq, hD, Spec.ibmNatural, List.headD_cons, hexNib_upperC p hp]

/-! ## non-vacuity -/
example : Dom (hexb "0123456789ABCDEFFEDCBA9876543210") (str "1234567890123456") (str "0000") (str "1122334455667788") 0 16 (str "F") := by
  unfold Dom; decide +kernel

end Psec.Props.C11
