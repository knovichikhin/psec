import PsecModel.Lemmas.Card
import PsecModel.Lemmas.Modes
import PsecModel.Lemmas.Result
/-!
# C10 — Visa PVV is the standard PVV and always four digits
-/
namespace Psec.Props.C10
open Psec.Spec Psec.Card

/-- documented input domain of `generate_visa_pvv` -/
def Dom (pvk : Bytes) (pvki pin pan : PyStr) : Prop :=
  (pvk.length = 8 ∨ pvk.length = 16 ∨ pvk.length = 24) ∧ pvki.length = 1 ∧ asciiNumeric pvki = true ∧
  pin.length = 4 ∧ asciiNumeric pin = true ∧ 12 ≤ pan.length ∧ asciiNumeric pan = true

instance (pvk : Bytes) (pvki pin pan : PyStr) : Decidable (Dom pvk pvki pin pan) := by unfold Dom; infer_instance

theorem tsp_length (pvki pin pan : PyStr) (hi : pvki.length = 1) (hp : pin.length = 4) (ha : 12 ≤ pan.length) :
    ((digitsOf pan).dropLast.drop ((digitsOf pan).dropLast.length - 11) ++ digitsOf pvki ++ digitsOf pin).length = 16 := by
  simp [hi, hp]; omega

theorem generateVisaPvv_eq (c : Ciphers) (pvk : Bytes) (pvki pin pan : PyStr) :
    generateVisaPvv c pvk pvki pin pan =
      if Dom pvk pvki pin pan then .ok (Spec.pvv (c.tdesE pvk) pvki pin pan) else .error .value := by
  unfold generateVisaPvv
  by_cases h : Dom pvk pvki pin pan
  · rw [if_pos h]
    obtain ⟨hk, hi, hin, hp, hpn, ha, han⟩ := h
    have hkF := (tdesKeyOk_iff pvk).mpr hk
    have htn : asciiNumeric ((pan.drop (pan.length - 12)).take 11 ++ pvki ++ pin) = true := by
      rw [asciiNumeric_append, asciiNumeric_append, asciiNumeric_take _ _ (asciiNumeric_drop _ _ han), hin, hpn]; rfl
    have hdig : digitsOf ((pan.drop (pan.length - 12)).take 11 ++ pvki ++ pin) =
        (digitsOf pan).dropLast.drop ((digitsOf pan).dropLast.length - 11) ++ digitsOf pvki ++ digitsOf pin := by
      rw [slice_before_last (digitsOf pan) 11 (by simp; omega)]
      simp only [digitsOf, List.map_append, List.map_take, List.map_drop, List.length_map]
    have htl := tsp_length pvki pin pan hi hp ha
    have hev : ((pan.drop (pan.length - 12)).take 11 ++ pvki ++ pin).length % 2 = 0 := by
      rw [← digitsOf_length, hdig, htl]
    simp only [hk, hi, hin, hp, hpn, han, Nat.not_lt.mpr ha, ne_eq, not_true_eq_false, or_self, if_false, Spec.pvv]
    rw [fromHexWs_of_hex _ (asciiNumeric_hexchar htn), a2bHex_numeric _ htn hev, hdig]
    simp only [Props.C19.tdes_ecb_enc_block c pvk _ hkF (by rw [nibsToBytes_length, htl]), decimalize_eq_spec]
  · rw [if_neg h]
    refine guard_value fun g1 => guard_value fun g2 => guard_value fun g3 => guard_value fun g4 => absurd ?_ h
    simp only [not_or, Decidable.not_not, Nat.not_lt] at g2 g3 g4
    exact ⟨Decidable.not_not.mp g1, g2.1, g2.2, g3.1, g3.2, g4.1, g4.2⟩

/-- **PVV = the standard algorithm**: TSP = 11 right-most PAN digits excluding the check digit ‖ index ‖ PIN, enciphered,
decimal nibbles first then `A–F` minus ten -/
theorem pvv_eq_spec (c : Ciphers) (hc : c.Lawful) (pvk : Bytes) (pvki pin pan : PyStr) (h : Dom pvk pvki pin pan) :
    generateVisaPvv c pvk pvki pin pan = .ok (Spec.pvv (c.tdesE pvk) pvki pin pan) := by
  rw [generateVisaPvv_eq, if_pos h]

theorem pvv_four_digits (c : Ciphers) (hc : c.Lawful) (pvk : Bytes) (pvki pin pan : PyStr) (h : Dom pvk pvki pin pan) :
    ∃ v, generateVisaPvv c pvk pvki pin pan = .ok v ∧ v.length = 4 ∧ asciiNumeric v = true := by
  refine ⟨_, pvv_eq_spec c hc pvk pvki pin pan h, decimalise_digits _ 4 ?_⟩
  obtain ⟨hk, hi, _, hp, _, ha, _⟩ := h
  rw [hc.tdes_enc_len pvk _ ((tdesKeyOk_iff pvk).mpr hk)
    (by rw [nibsToBytes_length, tsp_length pvki pin pan hi hp ha])]
  decide

example : Dom (hexb "0123456789ABCDEFFEDCBA9876543210") (str "3") (str "4524") (str "1122334455667788") := by
  unfold Dom; decide +kernel

end Psec.Props.C10
