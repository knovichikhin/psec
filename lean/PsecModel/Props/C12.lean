import PsecModel.Lemmas.Framing
import PsecModel.Lemmas.WrapAll
/-! C12 — every emitted TR-31 key block and header string is well-framed. -/
namespace Psec.Props.C12
open Psec.Tr31 Psec.Props.C17

/-- Every key block `wrap` returns is printable ASCII of at most 9999 characters, a multiple of the cipher block size, with the
zero-filled decimal of its true length in characters 1–4. It is `H ++ X ++ Y`: `H` (a block multiple) is the 16 fixed characters, the
header's optional blocks in order and at most one pad block `PB` of zeros, placed last, the count field being the number of blocks
present (≤ 99); `X` and `Y` are upper-case hex, of a positive whole number of cipher blocks and of the version's MAC. -/
theorem wrap_framing (c : Ciphers) (hc : c.Lawful) (kb : KB) (hw : kb.header.WF) (key : Bytes) (mask : Option Int)
    (entropy : Bytes) (s : PyStr) (h : kb.wrap c key mask entropy = .ok s) :
    ∃ bs ml n body pad enc mac,
      algoBs kb.header.versionId = some bs ∧ macLen kb.header.versionId = some ml ∧
      asciiPrintable s = true ∧ s.length ≤ 9999 ∧ (s.take 5).drop 1 = dec4s s.length ∧ s.length % bs = 0 ∧
      s = kb.header.assemble s.length n (body ++ pad) ++ toHexU enc ++ toHexU mac ∧
      (16 + (body ++ pad).length) % bs = 0 ∧ dumpAll kb.header.blocks = .ok body ∧ n ≤ 99 ∧
      ((pad = [] ∧ n = kb.header.blocks.length) ∨
       (∃ p, 1 ≤ p ∧ p ≤ bs ∧ pad = [80, 66] ++ hex2U (4 + p) ++ zerosS p ∧ n = kb.header.blocks.length + 1)) ∧
      (toHexU enc).all isUpperHexC = true ∧ (toHexU mac).all isUpperHexC = true ∧
      0 < enc.length ∧ enc.length % bs = 0 ∧ mac.length = ml := by
  obtain ⟨bs, ml, n, blocks, hdr, enc, mac, clear, hbs, hml, -, hbd, rfl, hle, rfl, henc, rfl, -, -, -, -⟩ :=
    (wrap_facts c hc kb key mask entropy s h).facts
  obtain ⟨hpos, hb16, h16, hml2⟩ := version_align _ bs _ hbs hml
  obtain ⟨body, pad, hbody, rfl, hn99, hbmod, hpad⟩ := blocksDump_shape kb.header.blocks bs n blocks hpos hbd
  have hslen := framed_length _ hw _ n (body ++ pad) enc mac hle hn99
  have hencm : enc.length % bs = 0 ∧ 0 < enc.length := by rw [henc]; exact pad_arith bs _ hpos
  have hsm := framed_mod _ _ mac.length _ h16 hbmod hencm.1 hml2
  have hbp := blocksDump_printable kb.header.blocks bs n _ hpos hb16 hw.blocks hbd
  rw [hslen]
  refine ⟨bs, _, n, body, pad, enc, mac, hbs, hml, ?_, hle, ?_, hsm, rfl, add_mod_zero h16 hbmod, hbody, hn99, hpad,
    (toHexU_chars enc).1, (toHexU_chars mac).1, hencm.2, hencm.1, rfl⟩
  · rw [asciiPrintable_append, asciiPrintable_append, assemble_printable _ hw _ _ _ hle hn99 hbp,
      (toHexU_chars enc).2, (toHexU_chars mac).2]; rfl
  · rw [List.append_assoc, assemble_lenfield _ hw _ n _ _ hle]

/-- `str(header)` re-loads to an equal header and reports the length it occupies. `hlen`: `Header.__str__`, unlike `dump`, does not
check the limit of 9999, beyond which the length field outgrows its four characters. -/
theorem str_reload (h : Header) (hw : h.WF) (hnp : NoPadIds h.blocks) (s : PyStr) (hs : h.str = .ok s)
    (hlen : s.length ≤ 9999) :
    loadPure s = .ok (s.length, h) ∧ ∀ σ : Header, (σ.load s).1 = .ok s.length ∧ (σ.load s).2 = h := by
  obtain ⟨bs, ml, hbs, hml⟩ := versionOk_bs _ hw.ver
  rw [str_eq h hbs] at hs
  obtain ⟨⟨n, blocks⟩, hbd, hs⟩ := map_eq_ok.mp hs
  obtain ⟨hpos, hb16, _⟩ := version_align _ bs ml hbs hml
  obtain ⟨hload, _, hn99, _, _⟩ := blocks_load_dump h.blocks bs hpos hb16 n blocks [] (hw.blocksWF hnp) hw.nodup hbd
  -- if the length printed is at most 9999 the assembled string has 16 + |blocks| characters; otherwise it is longer than 9999 itself
  by_cases hL : 16 + blocks.length ≤ 9999
  · have hl := assemble_length h hw (16 + blocks.length) n blocks hL hn99
    have hpure := load_assemble h hw (16 + blocks.length) n blocks [] hL hn99 hload
    rw [List.append_nil] at hpure
    rw [hs] at hpure hl
    rw [hl]
    refine ⟨hpure, fun σ => ?_⟩
    obtain ⟨a1, a2⟩ := load_eq_pure σ s
    exact ⟨by rw [a1, hpure]; rfl, a2 _ _ hpure⟩
  · exfalso
    have : 16 + blocks.length ≤ s.length := by
      rw [← hs]; unfold Header.assemble
      simp only [List.length_append]
      have hv := (versionOk_len _ hw.ver).1
      have z4 : 4 ≤ (zfill 4 (natToDec (16 + blocks.length))).length := by unfold zfill; simp; omega
      have z2 : (zfill 2 (natToDec n)).length = 2 := by rw [zfill2_eq _ hn99]; rfl
      rw [hw.ku.1, hw.alg.1, hw.mou.1, hw.vn.1, hw.ex.1, hw.res.1, hv, z2]; omega
    omega

/-- the pad-block formula of `Blocks.dump`: where the unpadded length plus 4 is already a multiple, a full block of padding is
added; the length still fits one byte -/
theorem pad_block_arith (len bs : Nat) (hbs : 0 < bs) (hbs16 : bs ≤ 16) (hm : len % bs ≠ 0) :
    let p := bs - (len + 4) % bs
    1 ≤ p ∧ p ≤ bs ∧ 4 + p < 256 ∧ (len + 4 + p) % bs = 0 := by
  have := Nat.mod_lt (len + 4) hbs
  refine ⟨by omega, by omega, by omega, ?_⟩
  exact (pad_arith bs (len + 4) hbs).1

end Psec.Props.C12
