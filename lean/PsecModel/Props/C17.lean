import PsecModel.Lemmas.Load
/-!
C17 — a reused KeyBlock/Header behaves like a fresh one. `Header.load` and `KeyBlock.unwrap` are modelled in state-passing style
(outcome and the object as it is left); the theorems hold for arbitrary prior states, hence for every history of operations.
-/
namespace Psec.Props.C17
open Psec.Tr31

/-- the outcome of `Header.load` does not depend on the object's prior state, nor, when it succeeds, does the resulting state (every
field, the reserved field, the ordered block list) -/
theorem load_state_independent (σ σ' : Header) (t : PyStr) :
    (σ.load t).1 = (σ'.load t).1 ∧ (∀ n, (σ.load t).1 = .ok n → (σ.load t).2 = (σ'.load t).2) := by
  rw [load_eq σ, load_eq σ']
  split
  · split
    · exact ⟨rfl, fun _ _ => rfl⟩
    · exact ⟨rfl, fun _ h => by cases h⟩
  · exact ⟨rfl, fun _ h => by cases h⟩

/-- the outcome of `KeyBlock.unwrap` (the key or the error class) depends only on the KBPK and the input string, and so does the
resulting header whenever the header part loads -/
theorem unwrap_state_independent (c : Ciphers) (kb kb' : KB) (s : PyStr) (hk : kb.kbpk = kb'.kbpk) :
    (KB.unwrap c kb s).1 = (KB.unwrap c kb' s).1 ∧
    (∀ n, (kb.header.load s).1 = .ok n → (KB.unwrap c kb s).2 = (KB.unwrap c kb' s).2) := by
  rw [unwrap_eq, unwrap_eq, hk]
  refine ⟨rfl, fun n hn => ?_⟩
  rw [(load_state_independent kb.header kb'.header s).2 n hn]

/-- state after a whole history of operations -/
def run (c : Ciphers) (kb : KB) (ops : List Op) : KB := ops.foldl (fun s op => (step c s op).2) kb

theorem step_kbpk (c : Ciphers) (kb : KB) (op : Op) (hop : ∀ k, op ≠ .setKbpk k) : (step c kb op).2.kbpk = kb.kbpk := by
  cases op with
  | setKbpk k => exact absurd rfl (hop k)
  | unwrap s => show (KB.unwrap c kb s).2.kbpk = _; rw [unwrap_eq]
  | setField i v =>
    have hl (r : R Header) : (liftH kb r).2.kbpk = kb.kbpk := by cases r <;> rfl
    rcases i with _ | _ | _ | _ | _ | _ <;> exact hl _
  | setBlock i v => simp only [step]; split <;> rfl
  | delBlock i => simp only [step]; split <;> rfl
  | _ => rfl

/-- history independence: the two theorems above after any two sequences of operations (re-assignment of the KBPK attribute
included), for objects that end up holding the same KBPK -/
theorem history_independent (c : Ciphers) (kb0 kb0' : KB) (ops ops' : List Op) (s : PyStr)
    (hk : (run c kb0 ops).kbpk = (run c kb0' ops').kbpk) :
    let a := run c kb0 ops
    let b := run c kb0' ops'
    (step c a (.unwrap s)).1 = (step c b (.unwrap s)).1 ∧
    (step c a (.load s)).1 = (step c b (.load s)).1 ∧
    (∀ n, (a.header.load s).1 = .ok n →
      (step c a (.unwrap s)).2 = (step c b (.unwrap s)).2 ∧ (step c a (.load s)).2 = (step c b (.load s)).2) := by
  intro a b
  obtain ⟨u1, u2⟩ := unwrap_state_independent c a b s hk
  obtain ⟨l1, l2⟩ := load_state_independent a.header b.header s
  refine ⟨by simp only [step, u1], by simp only [step, l1], fun n hn => ⟨by simp only [step]; exact u2 n hn, ?_⟩⟩
  simp only [step]
  rw [l2 n hn, hk]

theorem run_kbpk (c : Ciphers) (kb : KB) (ops : List Op) (hops : ∀ op ∈ ops, ∀ k, op ≠ .setKbpk k) :
    (run c kb ops).kbpk = kb.kbpk := by
  induction ops generalizing kb with
  | nil => rfl
  | cons op r ih =>
    simp only [run, List.foldl_cons] at ih ⊢
    rw [ih _ (fun o ho => hops o (by simp [ho])), step_kbpk c kb op (hops op (by simp))]

/-- the mixed state a failed load leaves behind is harmless: the next successful load overwrites all of it -/
theorem load_overwrites_everything (σ : Header) (bad good : PyStr) (n : Nat)
    (h : (Header.fresh.load good).1 = .ok n) :
    ((σ.load bad).2.load good).1 = .ok n ∧ ((σ.load bad).2.load good).2 = (Header.fresh.load good).2 := by
  obtain ⟨h1, h2⟩ := load_state_independent Header.fresh (σ.load bad).2 good
  exact ⟨by rw [← h1, h], (h2 n h).symm⟩

/-- wrapping is a function of the KBPK and the header's current field values (true by construction in the model:
that the real object has no hidden state is what the history correspondence checks), and leaves the object unchanged -/
theorem wrap_depends_on_fields (c : Ciphers) (kb kb' : KB) (key : Bytes) (mask : Option Int) (e : Bytes)
    (hk : kb.kbpk = kb'.kbpk) (hh : kb.header = kb'.header) :
    kb.wrap c key mask e = kb'.wrap c key mask e ∧ (step c kb (.wrap key mask e)).2 = kb := by
  cases kb; cases kb'; subst hk; subst hh
  exact ⟨rfl, rfl⟩

/-! non-vacuity: a successful load exists -/
example : ((Header.fresh.load (str "D0112P0AE00E0000")).1).toOption = some 16 := by decide +kernel

end Psec.Props.C17
