import PsecModel.Props.C06
/-!
# C04 — PIN block encode then decode returns the PIN (ISO 9564 formats 0, 2, 3, 4)

For every PIN of 4–12 ASCII digits, every admissible PAN, every entropy stream that yields the format-3 fill, every 8 random
bytes of the format-4 field, and (format 4 enciphered) every AES key of 16/24/32 bytes under `c.Lawful`. Each round trip is the
encoder's equation (C05) followed by `decodeClear_plain` (C06); the enciphered format 4 is `iso4_decipher_other_pan` (C06) at the
PAN the block was made for.
-/
namespace Psec.Props.C04
open Psec.Spec Psec.Pinblock Psec.Props.C05 Psec.Props.C06

theorem iso2_roundtrip (pin : PyStr) (hpin : pinOk pin = true) :
    ∃ b, encodePinblockIso2 pin = .ok b ∧ decodePinblockIso2 b = .ok pin := by
  obtain ⟨h4, h12, _⟩ := (pinOk_iff pin).mp hpin
  refine ⟨_, iso2_eq_spec pin hpin, ?_⟩
  rw [decodeIso2_eq]
  exact decodeClear_plain 8 2 fillAllF pin _ (by decide) hpin (by simp) (by simp; omega) (by simp [fillAllF])

theorem iso0_roundtrip (pin pan : PyStr) (hpin : pinOk pin = true) (hpan : panOk13 pan = true) :
    ∃ b, encodePinblockIso0 pin pan = .ok b ∧ decodePinblockIso0 b pan = .ok pin := by
  obtain ⟨h4, h12, _⟩ := (pinOk_iff pin).mp hpin
  refine ⟨_, iso0_eq_spec pin pan hpin hpan, ?_⟩
  rw [decodeIso0_eq, if_pos hpan, Spec.iso0, Spec.iso0Plain, masked_bytes 0 pin pan _ (by decide) hpin hpan (by simp) (by simp),
    xorBytes_cancel]
  exact decodeClear_plain 8 0 fillAllF pin _ (by decide) hpin (by simp) (by simp; omega) (by simp [fillAllF])

/-- `hd`: the entropy stream yields exactly the ten draws of `encode_pinblock_iso_3`, so this is for every value of the random fill -/
theorem iso3_roundtrip (pin pan : PyStr) (draws : Bytes) (fill : PyStr) (hpin : pinOk pin = true)
    (hpan : panOk13 pan = true) (hd : choices 10 draws = some (fill, [])) :
    ∃ b, encodePinblockIso3 pin pan draws = .ok b ∧ decodePinblockIso3 b pan = .ok pin := by
  obtain ⟨h4, h12, _⟩ := (pinOk_iff pin).mp hpin
  obtain ⟨henc, hfill⟩ := iso3_layout pin pan draws fill hpin hpan hd
  have hfl : ((fill.map hexNib).take (14 - pin.length)).length = 14 - pin.length := by
    rw [List.length_take, List.length_map, (choices_alphabet 10 draws fill [] hd).1]; omega
  have hf16 : ∀ x ∈ (fill.map hexNib).take (14 - pin.length), x < 16 := fun x hx => by have := hfill x hx; omega
  refine ⟨_, henc, ?_⟩
  rw [decodeIso3_eq, if_pos hpan, Spec.iso3, Spec.iso3Plain, masked_bytes 3 pin pan _ (by decide) hpin hpan hf16 hfl,
    xorBytes_cancel]
  refine decodeClear_plain 8 3 fillAtoF pin _ (by decide) hpin hf16 (by omega) (List.all_eq_true.mpr fun x hx => ?_)
  have := hfill x hx
  simp; omega

theorem iso4_field_roundtrip (pin : PyStr) (rnd : Bytes) (hpin : pinOk pin = true) (hr : rnd.length = 8) :
    ∃ b, encodePinFieldIso4 pin rnd = .ok b ∧ b.length = 16 ∧ decodePinFieldIso4 b = .ok pin := by
  obtain ⟨h4, h12, _⟩ := (pinOk_iff pin).mp hpin
  refine ⟨_, iso4_pin_field_layout pin rnd hpin hr, iso4PinField_length pin rnd hpin hr, ?_⟩
  rw [decodeIso4_eq, iso4PinField_eq_plain pin rnd hpin]
  refine decodeClear_plain 16 4 Spec.fillA16 pin _ (by decide) hpin (fun x hx => ?_) (by simp [bytesToNibs_length, hr]; omega) ?_
  · rcases List.mem_append.mp hx with hx | hx
    · simp at hx; omega
    · exact bytesToNibs_lt rnd x hx
  · rw [Spec.fillA16, List.take_left' (List.length_replicate ..), beq_self_eq_true]

theorem iso4_encipher_roundtrip (c : Ciphers) (hc : c.Lawful) (key : Bytes) (pin pan : PyStr) (rnd : Bytes)
    (hk : aesKeyOk key = true) (hpin : pinOk pin = true) (hr : rnd.length = 8)
    (h1 : 1 ≤ pan.length) (h19 : pan.length ≤ 19) (hn : asciiNumeric pan = true) :
    ∃ b, encipherPinblockIso4 c key pin pan rnd = .ok b ∧ decipherPinblockIso4 c key b pan = .ok pin := by
  obtain ⟨b, hb, hdec⟩ := iso4_decipher_other_pan c hc key pin pan pan rnd hk hpin hr h1 h19 hn h1 h19 hn
  obtain ⟨f, hf, hfl, hfd⟩ := iso4_field_roundtrip pin rnd hpin hr
  cases (iso4_pin_field_layout pin rnd hpin hr).symm.trans hf
  -- under the PAN it was enciphered for, the two PAN fields cancel and the inner decryption returns the PIN field
  exact ⟨b, hb, by rw [hdec, xorBytes_cancel, hc.aes_dec_enc key _ hk hfl, hfd]⟩

/-! ## non-vacuity: the hypotheses are met by concrete inputs -/
example : pinOk (str "1234") = true ∧ panOk13 (str "5555555551234567") = true := by decide
example : (choices 10 (hexb "00204060E08090A0B0FF0011223344")).isSome = true := by decide +kernel

end Psec.Props.C04
