import PsecModel.Lemmas.SpecEmit
import PsecModel.Props.C01
/-!
C03 — TR-31 key blocks interoperate with an independent implementation. Partial. The independent implementation is
`Spec/TR31.lean` with `Spec/CMAC.lean`, written from the standard. Proved, for every lawful cipher: both directions and the refinement.

NOT proved: that the specification files are a faithful reading of the printed TR-31:2018 / SP 800-38B. That is validated on every
run by the correspondence (third-party vectors of the repository's test-suite through `Spec.TR31.unwrap`, OpenSSL's own CMAC
against `Spec.cmac`) and by the SP 800-38B examples in `Props/C03Examples.lean`. Outside `unwrap_eq_spec`: strings that are not
canonical (`Canon`), on which psec's reader is deliberately laxer than the grammar; C02 and C15 cover rejection and error classes.
-/
namespace Psec.Props.C03
open Psec.Tr31

/-- psec → specification: what `wrap` emits, the specification opens, to the same key and header -/
theorem wrap_is_spec_valid (c : Ciphers) (hc : c.Lawful) (kbpk : Bytes) (h : Header) (hw : h.WF) (hnp : NoPadIds h.blocks)
    (key : Bytes) (mask : Option Int) (entropy : Bytes) (s : PyStr)
    (hwrap : wrapFn c kbpk (.obj h) key mask entropy = .ok s) :
    Spec.TR31.unwrap c kbpk s = some (h, key) := by
  exact psec_to_spec c hc kbpk s h key (wrap_canon c hc kbpk h hw hnp key mask entropy s hwrap)
    (Props.C01.wrap_unwrap c hc kbpk h hw hnp key mask entropy s hwrap)

theorem wrap_opened_alike (c : Ciphers) (hc : c.Lawful) (kbpk : Bytes) (h : Header) (hw : h.WF) (hnp : NoPadIds h.blocks)
    (key : Bytes) (mask : Option Int) (entropy : Bytes) (s : PyStr)
    (hwrap : wrapFn c kbpk (.obj h) key mask entropy = .ok s) :
    (unwrapFn c kbpk s).toOption = Spec.TR31.unwrap c kbpk s :=
  Psec.Tr31.unwrap_eq_spec c hc kbpk s (wrap_canon c hc kbpk h hw hnp key mask entropy s hwrap)

/-- specification → psec: psec's `unwrap` opens every key block the specification's builder can emit, to the same key and header,
whatever the encoding freedoms: length form per optional block (short, or extended with a 1..255-byte length field), pad-block
policy (none when aligned, minimal, oversized by whole cipher blocks), number of key-padding bytes that completes a cipher block
(zero included), hex case. The hypotheses from `hf` on are the builder's own well-formedness. -/
theorem spec_valid_unwraps (c : Ciphers) (hc : c.Lawful) (kbpk : Bytes) (h : Header) (forms : List Nat) (padMode : Nat)
    (key pad : Bytes) (lower : Bool) (hw : h.WF) (hnp : NoPadIds h.blocks) (hf : FormsOK h.blocks forms)
    (v : Nat) (hv : h.versionId = [v])
    (hkp : (2 + key.length + pad.length) % Spec.TR31.bsOf v = 0)
    (hps : 4 + Spec.TR31.padSize (Spec.TR31.bsOf v) (Spec.TR31.encodeBlocks h.blocks forms).length padMode ≤ 255)
    (hcnt : h.blocks.length + (Spec.TR31.padBlock (Spec.TR31.bsOf v) (Spec.TR31.encodeBlocks h.blocks forms).length padMode).2 ≤ 99)
    (hlen : (Spec.TR31.build c kbpk h forms padMode key pad lower).length ≤ 9999)
    (hk : Spec.TR31.kbpkOk v kbpk = true) :
    unwrapFn c kbpk (Spec.TR31.build c kbpk h forms padMode key pad lower) = .ok (h, key) := by
  obtain ⟨_, _, _, -, -, hu⟩ := build_opens c hc kbpk h forms padMode key pad lower hw hnp hf v hv hkp hps hcnt hlen hk
  exact hu

/-- the refinement: `unwrap` is the specification's verifier on every canonical string (`Canon`) -/
theorem unwrap_eq_spec (c : Ciphers) (hc : c.Lawful) (kbpk : Bytes) (s : PyStr)
    (hcanon : ∀ cnt bl rest, Spec.TR31.dec? ((s.drop 12).take 2) = some cnt →
      Spec.TR31.parseBlocks cnt (s.drop 16) = some (bl, rest) → Canon bl rest) :
    (unwrapFn c kbpk s).toOption = Spec.TR31.unwrap c kbpk s :=
  Psec.Tr31.unwrap_eq_spec c hc kbpk s hcanon

theorem accepted_is_spec_valid (c : Ciphers) (hc : c.Lawful) (kbpk : Bytes) (s : PyStr) (h : Header) (key : Bytes)
    (hcanon : ∀ cnt bl rest, Spec.TR31.dec? ((s.drop 12).take 2) = some cnt →
      Spec.TR31.parseBlocks cnt (s.drop 16) = some (bl, rest) → Canon bl rest)
    (hu : unwrapFn c kbpk s = .ok (h, key)) : Spec.TR31.unwrap c kbpk s = some (h, key) :=
  psec_to_spec c hc kbpk s h key hcanon hu

/-- the specification is self-consistent: its verifier opens whatever its builder emits, so the two specification-side functions
the theorems above are stated against are neither vacuous nor contradictory -/
theorem spec_roundtrip (c : Ciphers) (hc : c.Lawful) (kbpk : Bytes) (h : Header) (forms : List Nat) (padMode : Nat)
    (key pad : Bytes) (lower : Bool) (hw : h.WF) (hnp : NoPadIds h.blocks) (hf : FormsOK h.blocks forms)
    (v : Nat) (hv : h.versionId = [v])
    (hkp : (2 + key.length + pad.length) % Spec.TR31.bsOf v = 0)
    (hps : 4 + Spec.TR31.padSize (Spec.TR31.bsOf v) (Spec.TR31.encodeBlocks h.blocks forms).length padMode ≤ 255)
    (hcnt : h.blocks.length + (Spec.TR31.padBlock (Spec.TR31.bsOf v) (Spec.TR31.encodeBlocks h.blocks forms).length padMode).2 ≤ 99)
    (hlen : (Spec.TR31.build c kbpk h forms padMode key pad lower).length ≤ 9999)
    (hk : Spec.TR31.kbpkOk v kbpk = true) :
    Spec.TR31.unwrap c kbpk (Spec.TR31.build c kbpk h forms padMode key pad lower) = some (h, key) :=
  Psec.Tr31.spec_roundtrip c hc kbpk h forms padMode key pad lower hw hnp hf v hv hkp hps hcnt hlen hk

end Psec.Props.C03
