import PsecModel.Lemmas.WrapAll
import PsecModel.Props.C05
/-!
C14 — random fill and padding are fresh, unpredictable and within their alphabet. Partial: a deterministic model cannot exhibit
"unpredictable". Proved, with the entropy the call obtained from the operating system as an explicit argument: every random position
of the output is an OS entropy byte requested in that call (or the image of such bytes under the exactly uniform `choice` map),
nothing else is random, the map from entropy to output is injective, and the format-3 fill stays in `A–F` for every entropy stream.
ASSUMED, not proved: that `os.urandom` is uniform and unpredictable; `C14_full_iso4` is a proposition, not asserted.
-/
namespace Psec.Props.C14
open Psec.Tr31 Psec.Pinblock Psec.Spec Psec.Props.C05

/-- TR-31 key padding is exactly the entropy requested in the call: the clear key data is `len16 ‖ key ‖ entropy`, the entropy being
one request of `padLen + extraPad ≥ 1` bytes -/
theorem wrap_pad_is_entropy (c : Ciphers) (hc : c.Lawful) (kb : KB) (key : Bytes) (mask : Option Int) (entropy : Bytes)
    (s : PyStr) (h : kb.wrap c key mask entropy = .ok s) :
    ∃ bs hdr enc mac clear, algoBs kb.header.versionId = some bs ∧ s = hdr ++ toHexU enc ++ toHexU mac ∧
      recoverDispatch c kb.header.versionId kb.kbpk hdr enc mac = clear ∧
      clear = toBytesBEAux 2 (key.length * 8) [] ++ key ++ entropy ∧
      entropy.length = (bs - (2 + maskedLen kb.header key.length mask) % bs) + (maskedLen kb.header key.length mask - key.length) ∧
      1 ≤ entropy.length := by
  obtain ⟨bs, ml, n, blocks, hdr, enc, mac, clear, hbs, _, hbs8, _, _, _, hs, _, _, hcl, hent, _, hrec⟩ :=
    (wrap_facts c hc kb key mask entropy s h).facts
  obtain ⟨_, _, hc3⟩ := clear_len key entropy clear hcl
  have hpos : 0 < bs := by omega
  have := Nat.mod_lt (2 + maskedLen kb.header key.length mask) hpos
  exact ⟨bs, hdr, enc, mac, clear, hbs, hs, hrec, hc3, hent, by omega⟩

/-- for a fixed object, key and mask the key block determines the padding: as many distinct key blocks as distinct paddings -/
theorem wrap_injective_in_pad (c : Ciphers) (hc : c.Lawful) (kb : KB) (hw : kb.header.WF) (key : Bytes) (mask : Option Int)
    (e1 e2 : Bytes) (s : PyStr) (h1 : kb.wrap c key mask e1 = .ok s) (h2 : kb.wrap c key mask e2 = .ok s) : e1 = e2 := by
  obtain ⟨bs, ml, n, blocks, hdr, enc, mac, clear, hbs, hml, _, hbd, hhdr, _, hs, henc, _, hcl, _, _, hrec⟩ :=
    (wrap_facts c hc kb key mask e1 s h1).facts
  obtain ⟨bs', ml', n', blocks', hdr', enc', mac', clear', hbs', hml', _, hbd', hhdr', _, hs', henc', _, hcl', _, _, hrec'⟩ :=
    (wrap_facts c hc kb key mask e2 s h2).facts
  rw [hbs] at hbs'; injection hbs' with hbs'; subst hbs'
  rw [hml] at hml'; injection hml' with hml'; subst hml'
  rw [hbd] at hbd'; injection hbd' with hbd'; injection hbd' with en eb; subst en; subst eb
  have hel : enc.length = enc'.length := by rw [henc, henc']
  have hh : hdr = hdr' := by rw [hhdr, hhdr', hel]
  subst hh
  have hbin : toHexU enc ++ toHexU mac = toHexU enc' ++ toHexU mac' := by
    have := hs.symm.trans hs'
    rw [List.append_assoc, List.append_assoc] at this
    exact List.append_cancel_left this
  have hl : (toHexU enc).length = (toHexU enc').length := by rw [toHexU_length, toHexU_length, hel]
  obtain ⟨he, hm⟩ := List.append_inj hbin hl
  have hee := toHexU_injective _ _ he
  have hmm := toHexU_injective _ _ hm
  subst hee; subst hmm
  have hcc : clear = clear' := by rw [← hrec, ← hrec']
  obtain ⟨_, _, c1⟩ := clear_len key e1 clear hcl
  obtain ⟨_, _, c2⟩ := clear_len key e2 clear' hcl'
  rw [c1, c2] at hcc
  exact List.append_cancel_left hcc

/-- `SystemRandom.choice` over six items is rejection sampling of `byte >> 5`: exactly 32 of the 256 byte values are accepted for
each of the six results (so uniform bytes give exactly uniform fill digits, position by position) and 64 are rejected -/
theorem choice_uniform :
    (∀ v : Fin 6, ((List.range 256).filter (fun b => b / 32 = v.val)).length = 32) ∧
    ((List.range 256).filter (fun b => ¬ (b / 32 < 6))).length = 64 := by decide +kernel

theorem choice6_step (b : UInt8) (r : Bytes) :
    choice6 (b :: r) = if b.toNat / 32 < 6 then some (b.toNat / 32, r) else choice6 r := rfl

/-- the fill of a format-3 block is the first `14 − len(pin)` results of the ten `choice("ABCDEF")` draws, each in `A–F` for every
entropy stream -/
theorem iso3_fill_is_choice (pin pan : PyStr) (draws : Bytes) (fill : PyStr)
    (hpin : pinOk pin = true) (hpan : panOk13 pan = true) (hd : choices 10 draws = some (fill, [])) :
    encodePinblockIso3 pin pan draws = .ok (Spec.iso3 pin pan (fill.map hexNib)) ∧
    fill.length = 10 ∧ (∀ ch ∈ fill, 65 ≤ ch ∧ ch ≤ 70) ∧
    (∀ x ∈ (fill.map hexNib).take (14 - pin.length), 10 ≤ x ∧ x ≤ 15) := by
  obtain ⟨h1, h2⟩ := iso3_layout pin pan draws fill hpin hpan hd
  obtain ⟨h3, h4⟩ := choices_alphabet 10 draws fill [] hd
  exact ⟨h1, h3, h4, h2⟩

/-- entropy accounting: the encoder fails (with the model-only `entropy` error) unless the supplied stream is consumed exactly, so
nothing drawn is ignored and nothing random comes from elsewhere -/
theorem iso3_consumes_exactly (pin pan : PyStr) (draws : Bytes) (hpin : pinOk pin = true) (hpan : panOk13 pan = true)
    (b : Bytes) (h : encodePinblockIso3 pin pan draws = .ok b) : ∃ fill, choices 10 draws = some (fill, []) := by
  rw [encodeIso3_eq, if_pos ⟨hpin, hpan⟩] at h
  split at h
  · exact ⟨_, ‹_›⟩
  · cases h

/-- bytes 8..15 of the format-4 PIN field are exactly the 8 bytes requested from the operating system -/
theorem iso4_random_half (pin : PyStr) (rnd : Bytes) (hpin : pinOk pin = true) (hr : rnd.length = 8) :
    ∃ f, encodePinFieldIso4 pin rnd = .ok f ∧ f.length = 16 ∧ f.drop 8 = rnd := by
  refine ⟨_, iso4_pin_field_layout pin rnd hpin hr, iso4PinField_length pin rnd hpin hr, ?_⟩
  -- `Spec.iso4PinField pin rnd` unfolds to `nibsToBytes (plain 4 pin (A…A)) ++ rnd`, and the first part has 8 bytes
  exact List.drop_left' (plain_block 4 pin _ (by decide) hpin (by simp) (by simp)).2

theorem iso4_injective_in_rnd (pin : PyStr) (r1 r2 : Bytes) (hpin : pinOk pin = true) (h1 : r1.length = 8) (h2 : r2.length = 8)
    (h : encodePinFieldIso4 pin r1 = encodePinFieldIso4 pin r2) : r1 = r2 := by
  obtain ⟨f1, e1, _, d1⟩ := iso4_random_half pin r1 hpin h1
  obtain ⟨f2, e2, _, d2⟩ := iso4_random_half pin r2 hpin h2
  rw [e1, e2] at h; injection h with h
  rw [← d1, ← d2, h]

/-- every string of length `n` equally likely: `prob b / denom = 256 ^ (-n)` -/
def UniformBytes (n : Nat) (prob : Bytes → Nat) (denom : Nat) : Prop := ∀ b : Bytes, b.length = n → prob b * 256 ^ n = denom

/-- C14 for the format-4 random half at full strength — a proposition, NOT asserted: what the OS returns with uniform probability
appears with uniform probability in bytes 8..15 -/
def C14_full_iso4 (prob : Bytes → Nat) (denom : Nat) : Prop :=
  ∀ pin, pinOk pin = true → ∀ r, r.length = 8 → ∃ f, encodePinFieldIso4 pin r = .ok f ∧ prob (f.drop 8) * 256 ^ 8 = denom

/-- conditional on `hu`: the operating system's bytes are uniform (assumed; no executable model can discharge it). The analogous
statements for the TR-31 padding and the format-3 fill follow in the same way from `wrap_pad_is_entropy` and `choice_uniform`. -/
theorem C14_full_iso4_of_uniform (prob : Bytes → Nat) (denom : Nat) (hu : UniformBytes 8 prob denom) : C14_full_iso4 prob denom := by
  intro pin hpin r hr
  obtain ⟨f, e, _, d⟩ := iso4_random_half pin r hpin hr
  exact ⟨f, e, by rw [d]; exact hu r hr⟩

end Psec.Props.C14
