import PsecModel.Lemmas.DesLawful
/-! Known-answer tests: the classic single-DES vector and the SP 800-67 three-key example tie `refCiphers.tdesE` to the published
algorithm (the C19 correspondence compares `refCiphers` with the `cryptography` package on random inputs). Byte lists are written
out because `hexb` on a string literal is slow in the kernel. -/
namespace Psec.VectorsDes
open Psec

-- single DES (8-byte key: K1 = K2 = K3)
example : DES.tdesE [0x13, 0x34, 0x57, 0x79, 0x9b, 0xbc, 0xdf, 0xf1]
    [0x01, 0x23, 0x45, 0x67, 0x89, 0xab, 0xcd, 0xef] =
    [0x85, 0xe8, 0x13, 0x54, 0x0f, 0x0a, 0xb4, 0x05] := by
  rw [DES.tdesE_single _ _ (by decide) rfl]
  simp only [DES.desCore, DES.keySchedule, DES.scheduleAux, DES.shifts]
  delta DES.round DES.feistelF
  rw [DES.permute_eq_N]
  decide +kernel
-- SP 800-67 three-key example, first block
example : DES.tdesE [0x01, 0x23, 0x45, 0x67, 0x89, 0xab, 0xcd, 0xef, 0x23, 0x45, 0x67, 0x89, 0xab, 0xcd, 0xef, 0x01, 0x45, 0x67, 0x89, 0xab, 0xcd, 0xef, 0x01, 0x23]
    [0x54, 0x68, 0x65, 0x20, 0x71, 0x75, 0x66, 0x63] =
    [0xa8, 0x26, 0xfd, 0x8c, 0xe5, 0x3b, 0x85, 0x5f] := by
  simp only [DES.tdesE, DES.tkeys, DES.tdesEBits, DES.desCore, DES.keySchedule, DES.scheduleAux, DES.shifts]
  delta DES.round DES.feistelF
  rw [DES.permute_eq_N]
  decide +kernel

end Psec.VectorsDes
