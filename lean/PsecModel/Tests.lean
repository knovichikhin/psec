import PsecModel.Cipher.VectorsAes
import PsecModel.Cipher.VectorsDes
import PsecModel.Props.C03Examples
/-!
Kernel-evaluated known-answer tests and non-vacuity examples that are expensive to check: FIPS-197 / SP 800-67 vectors of the
reference ciphers, SP 800-38B CMAC examples, one concrete instance of each C03 theorem. Not part of the default build (`setup.sh`,
quick tier); built by the thorough tier of C03 and C19.
-/
